/-
  Proofs/DSepSym.lean — an active trail read backwards is an active trail: d-connection is symmetric.
-/
import PgmVerif.Proofs.DSep
namespace PgmVerif
namespace DSep
variable (g : DG) (obs anc : List Var)

theorem ok3_symm (a b c : Var) : Ok3 g obs anc a b c ↔ Ok3 g obs anc c b a := by
  unfold Ok3
  rw [and_comm (a := E g a b)]

/-- trails are stored backwards (head = current end point), so a node appended at the tail of the list extends the
    trail at its START: `c` becomes the new first node, in front of `b` -/
theorem activeRev_concat (l : List Var) (b c : Var) (h1 : ActiveRev g obs anc (l ++ [b])) (h : Adj g c b)
    (hok : ∀ a ∈ l.getLast?, Ok3 g obs anc c b a) : ActiveRev g obs anc (l ++ [b, c]) := by
  induction l with
  | nil => exact h
  | cons x l ih =>
    cases l with
    | nil => exact ⟨h1, hok x rfl, h⟩
    | cons y l =>
      rw [List.cons_append, List.cons_append, activeRev_cons_cons] at h1 ⊢
      refine ⟨h1.1, ?_, ih h1.2.2 (by rwa [List.getLast?_cons_cons] at hok)⟩
      cases l <;> exact h1.2.1  -- the case split only makes the two `head?` compute

/-- **an active trail read backwards is active** -/
theorem activeRev_reverse (l : List Var) (h : ActiveRev g obs anc l) : ActiveRev g obs anc l.reverse := by
  induction l with
  | nil => trivial
  | cons c tl ih =>
    cases tl with
    | nil => trivial
    | cons b l =>
      obtain ⟨hadj, hok, h'⟩ := (activeRev_cons_cons ..).mp h
      have ih := ih h'
      rw [List.reverse_cons] at ih
      rw [List.reverse_cons, List.reverse_cons, List.append_assoc]
      refine activeRev_concat g obs anc _ b c ih hadj.symm ?_
      rw [List.getLast?_reverse]
      exact fun a ha => (ok3_symm ..).mp (hok a ha)

end DSep
end PgmVerif
