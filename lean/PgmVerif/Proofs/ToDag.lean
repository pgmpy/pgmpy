/-
  Proofs/ToDag.lean — the sink-removal procedure of `PDAG.to_dag` (Dor & Tarsi) always returns an
  ACYCLIC edge set: every edge of the result points into a node that was removed earlier than its
  source, because a node is only removed when it has no outgoing directed edge among the remaining
  nodes and its undirected edges are then oriented into it.  `go_invariant` is the one induction over
  the loop; the results about `toDag` in Props/C12 are instances of it.
-/
import PgmVerif.Model.PDAG
import PgmVerif.Proofs.Acyclic
namespace PgmVerif
open Relation

namespace PD

/-- state invariant of the removal loop (`R` = nodes still present) -/
structure GoInv (R : List Var) (dir und acc : List (Var × Var)) : Prop where
  dirIn : ∀ e ∈ dir, e.1 ∈ R ∧ e.2 ∈ R
  undIn : ∀ e ∈ und, e.1 ∈ R ∧ e.2 ∈ R ∧ e.1 ≠ e.2
  /-- an edge of the result so far is still "live" or points into a removed node -/
  live : ∀ e ∈ acc, e ∈ dir ∨ e.2 ∉ R
  /-- removed nodes only reach removed nodes -/
  closed : ∀ a b, TransGen (Rel acc) a b → a ∉ R → b ∉ R
  /-- no cycle through a removed node -/
  acyc : ∀ x, x ∉ R → ¬ TransGen (Rel acc) x x

/-- the edge list that `PD.toDag.go` passes on for `dir` and for `und` when it removes `x`: the edges not at `x` -/
def without (x : Var) (l : List (Var × Var)) : List (Var × Var) := l.filter (fun e => e.1 != x && e.2 != x)

/-- `newE` of `PD.toDag.go`: the undirected edges at `x`, oriented into `x` -/
def into (x : Var) (und : List (Var × Var)) : List (Var × Var) :=
  (und.filter (fun e => e.1 == x || e.2 == x)).map (fun e => if e.1 == x then (e.2, x) else (e.1, x))

theorem mem_without {x : Var} {l : List (Var × Var)} {e : Var × Var} :
    e ∈ without x l ↔ e ∈ l ∧ e.1 ≠ x ∧ e.2 ≠ x := by
  simp [without]

theorem mem_into {x : Var} {und : List (Var × Var)} {e : Var × Var} :
    e ∈ into x und ↔ e.2 = x ∧ ((x, e.1) ∈ und ∨ (e.1, x) ∈ und) := by
  obtain ⟨a, b⟩ := e
  simp only [into, List.mem_map, List.mem_filter, Bool.or_eq_true, beq_iff_eq, Prod.exists]
  constructor
  · rintro ⟨u, v, ⟨huv, hux⟩, h⟩
    split at h <;> cases h
    · next hu => exact ⟨rfl, .inl (hu ▸ huv)⟩
    · next hu => exact ⟨rfl, .inr ((hux.resolve_left hu) ▸ huv)⟩
  · rintro ⟨rfl, h | h⟩
    · exact ⟨b, a, ⟨h, .inl rfl⟩, if_pos rfl⟩
    · refine ⟨a, b, ⟨h, .inr rfl⟩, ?_⟩
      split
      · next hab => rw [hab]
      · rfl

/-- a predicate kept by every edge is kept along every path -/
theorem transGen_closed {acc : List (Var × Var)} {S : Var → Prop}
    (h1 : ∀ a b, (a, b) ∈ acc → S a → S b) : ∀ a b, TransGen (Rel acc) a b → S a → S b := by
  intro a b hab
  induction hab with
  | single h => exact h1 _ _ h
  | tail _ h ih => intro ha; exact h1 _ _ h (ih ha)

theorem path_restrict {acc extra : List (Var × Var)} {S : Var → Prop}
    (hS : ∀ a b, (a, b) ∈ acc ++ extra → S a → S b) (hextra : ∀ e ∈ extra, ¬ S e.1) :
    ∀ a b, TransGen (Rel (acc ++ extra)) a b → S a → TransGen (Rel acc) a b := by
  intro a b hab
  induction hab with
  | single h =>
    intro ha
    rcases List.mem_append.mp h with h' | h'
    · exact TransGen.single h'
    · exact absurd ha (hextra _ h')
  | @tail c d hac h ih =>
    intro ha
    have hc : S c := transGen_closed (S := S) hS a c hac ha
    rcases List.mem_append.mp h with h' | h'
    · exact TransGen.tail (ih ha) h'
    · exact absurd hc (hextra _ h')

theorem goInv_step (R : List Var) (dir und acc : List (Var × Var)) (x : Var) (hx : x ∈ R)
    (hout : ∀ e ∈ dir, e.1 ≠ x) (h : GoInv R dir und acc) :
    GoInv (R.filter (· != x)) (without x dir) (without x und) (acc ++ into x und) := by
  have memR' : ∀ w, w ∈ R.filter (· != x) ↔ w ∈ R ∧ w ≠ x := by
    intro w; simp [List.mem_filter]
  have hnew : ∀ e ∈ into x und, e.2 = x ∧ e.1 ∈ R.filter (· != x) := by
    intro e he
    obtain ⟨h2, hu | hu⟩ := mem_into.mp he <;> obtain ⟨h1, h2', h3⟩ := h.undIn _ hu
    · exact ⟨h2, (memR' _).mpr ⟨h2', Ne.symm h3⟩⟩
    · exact ⟨h2, (memR' _).mpr ⟨h1, h3⟩⟩
  have hstep : ∀ a b, (a, b) ∈ acc ++ into x und → a ∉ R.filter (· != x) → b ∉ R.filter (· != x) := by
    intro a b hab ha
    rcases List.mem_append.mp hab with h' | h'
    · rw [memR'] at ha ⊢
      rcases h.live _ h' with hd | hr
      · -- a live directed edge: its source is in R, so the source is x — impossible
        exact absurd (Decidable.of_not_not fun hne => ha ⟨(h.dirIn _ hd).1, hne⟩) (hout _ hd)
      · exact fun hb => hr hb.1
    · exact absurd (hnew _ h').2 ha
  refine ⟨?_, ?_, ?_, transGen_closed hstep, ?_⟩
  · intro e he
    obtain ⟨hm, h1, h2⟩ := mem_without.mp he
    exact ⟨(memR' _).mpr ⟨(h.dirIn e hm).1, h1⟩, (memR' _).mpr ⟨(h.dirIn e hm).2, h2⟩⟩
  · intro e he
    obtain ⟨hm, h1, h2⟩ := mem_without.mp he
    exact ⟨(memR' _).mpr ⟨(h.undIn e hm).1, h1⟩, (memR' _).mpr ⟨(h.undIn e hm).2.1, h2⟩, (h.undIn e hm).2.2⟩
  · intro e he
    rw [memR']
    rcases List.mem_append.mp he with h' | h'
    · rcases h.live e h' with hd | hr
      · by_cases e2 : e.2 = x
        · exact .inr fun hh => hh.2 e2
        · exact .inl (mem_without.mpr ⟨hd, hout e hd, e2⟩)
      · exact .inr fun hh => hr hh.1
    · exact .inr fun hh => hh.2 (hnew e h').1
  · intro y hy hcyc
    -- the cycle only visits nodes outside `R.filter (· != x)`, and new edges start inside it: it is a cycle of the old edges
    have hold : TransGen (Rel acc) y y :=
      path_restrict (S := fun w => w ∉ R.filter (· != x)) hstep (fun e he hh => hh (hnew e he).2) y y hcyc hy
    by_cases hyR : y ∈ R
    · -- then y = x: its first edge leaves to a removed node, which cannot come back to x ∈ R
      have hyx : y = x := Decidable.of_not_not fun hne => hy ((memR' _).mpr ⟨hyR, hne⟩)
      subst hyx
      obtain ⟨c, hyc, hcy⟩ := TransGen.head'_iff.mp hold
      have hc : c ∉ R := (h.live _ hyc).resolve_left fun hd => hout _ hd rfl
      rcases Relation.reflTransGen_iff_eq_or_transGen.mp hcy with e | ht
      · exact hc (e ▸ hyR)
      · exact h.closed c y ht hc hyR
    · exact h.acyc y hyR hold

/-- the induction over the removal loop: `I R dir und acc` speaks of the loop state in the argument order of `toDag.go`.
    At the end only `R = []` and `acc = res` are known; `dir'`, `und'` are whatever the last state held, so a useful
    invariant says what it has to say about the result through `acc` (and `R`) -/
theorem go_invariant {I : List Var → List (Var × Var) → List (Var × Var) → List (Var × Var) → Prop}
    (hstep : ∀ R dir und acc x, x ∈ R → (∀ e ∈ dir, e.1 ≠ x) → I R dir und acc →
      I (R.filter (· != x)) (without x dir) (without x und) (acc ++ into x und))
    (fuel : Nat) (R : List Var) (dir und acc res : List (Var × Var)) (h : I R dir und acc)
    (hgo : toDag.go fuel R dir und acc = some res) : ∃ dir' und', I [] dir' und' res := by
  have hend : ∀ R dir und acc res, I R dir und acc → R.isEmpty = true → some acc = some res →
      ∃ dir' und', I [] dir' und' res := by
    intro R dir und acc res h hemp hres
    cases hres
    exact ⟨dir, und, List.isEmpty_iff.mp hemp ▸ h⟩
  induction fuel generalizing R dir und acc with
  | zero =>
    unfold toDag.go at hgo
    split at hgo
    · next hemp => exact hend R dir und acc res h hemp hgo
    · cases hgo
  | succ f ih =>
    unfold toDag.go at hgo
    by_cases hemp : R.isEmpty = true
    · rw [if_pos hemp] at hgo
      exact hend R dir und acc res h hemp hgo
    · rw [if_neg hemp] at hgo
      simp only at hgo
      split at hgo
      · cases hgo
      · next x hfind =>
        have hout : ∀ e ∈ dir, e.1 ≠ x := by
          -- the candidate test is `!out && …` with `out = dir.any (·.1 == x)`; its first conjunct says no edge of `dir` leaves `x`
          have hpred := List.find?_some hfind
          simp only [Bool.and_eq_true, Bool.not_eq_true', List.any_eq_false, beq_iff_eq] at hpred
          exact hpred.1
        exact ih _ _ _ _ (hstep R dir und acc x (List.mem_of_find?_eq_some hfind) hout h) hgo

end PD
end PgmVerif
