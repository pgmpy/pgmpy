/-
  Proofs/Spec.lean — the brute-force specification (`jointTable`, then reduce and marginalize) written
  as nested sums, so that it can be compared with what variable elimination computes.
-/
import PgmVerif.Proofs.VE
namespace PgmVerif
open Factor

theorem sum_range_mul (c P : Nat) (h : Nat → Nat → Rat) :
    ∑ i ∈ Finset.range (c * P), h (i / P) (i % P)
      = ∑ x ∈ Finset.range c, ∑ j ∈ Finset.range P, h x j := by
  induction c with
  | zero => rw [Nat.zero_mul, Finset.sum_range_zero, Finset.sum_range_zero]
  | succ c ih =>
    rw [Nat.succ_mul, Finset.sum_range_add, ih, Finset.sum_range_succ]
    congr 1
    apply Finset.sum_congr rfl
    intro j hj
    obtain ⟨h1, h2⟩ := mul_add_div_mod c (Finset.mem_range.mp hj)
    rw [h1, h2]

/-- The C-order index over `v :: I` splits as `(i / P, i % P)` with `P = (I.map K).prod` (`sum_range_mul`);
    `overrideL_cons_upd` then moves the override of `v` into the base assignment, where the induction
    hypothesis at `upd a v x` applies. -/
theorem overStates_nested (K : Var → Nat) (I : List Var) (hn : I.Nodup) (fn : Asg → Rat) (a : Asg) :
    sumR (overStates I (I.map K) a fn) = sumOut K I fn a := by
  induction I generalizing a with
  | nil => simp [overStates, allIdx, overrideL, sumR, sumOut]
  | cons v I ih =>
    have hn' := List.nodup_cons.mp hn
    simp only [sumOut]
    rw [← sumVar_sumOut, sumVar_eq]
    unfold overStates allIdx sumR
    simp only [List.map_cons, List.prod_cons, unravel]
    rw [sum_map_range,
      sum_range_mul (K v) (I.map K).prod
        (fun x j => fn (overrideL a (v :: I) (x :: unravel (I.map K) j)))]
    apply Finset.sum_congr rfl
    intro x _
    rw [← ih hn'.2 (upd a v x)]
    unfold overStates allIdx sumR
    rw [sum_map_range]
    apply Finset.sum_congr rfl
    intro j _
    rw [overrideL_cons_upd a v x I _ hn'.1]

/-- marginalisation of a table = nested sums over the eliminated variables -/
theorem den_marginalize_nested (K : Var → Nat) (f : Factor) (hf : f.WF K) (vs : List Var)
    (a : Asg) (ha : Bounded K a) :
    (marginalize f vs).den a = sumOut K (elimScope f vs) f.den a := by
  rw [den_marginalize K f hf vs a ha]
  exact overStates_nested K _ (hf.1.filter _) f.den a

theorem jointTable_spec (K : Var → Nat) (fs : List Factor) (vars : List Var) (hn : vars.Nodup)
    (hcov : ∀ f ∈ fs, ∀ v ∈ f.scope, v ∈ vars) :
    (jointTable fs vars (vars.map K)).WF K ∧
    (∀ a, Bounded K a → (jointTable fs vars (vars.map K)).den a = jointDen fs a) :=
  have h := isTable_tabulate K hn fun x y hxy =>
    jointDen_congr fs fun f hf => den_dependsOn f x y fun v hv => hxy v (hcov f hf v hv)
  ⟨h.wf, h.den⟩

end PgmVerif
