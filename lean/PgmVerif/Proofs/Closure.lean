/-
  Proofs/Closure.lean — fuel-bounded saturation reaches exactly the least set closed under a
  pointwise step function.  Used by ancestors / descendants and the
  (node, direction) reachability of d-separation.
-/
import PgmVerif.Model.Graph
import Mathlib.Logic.Relation
namespace PgmVerif

section
variable {α : Type} [DecidableEq α]

/-- inductive closure of `S0` under `step` -/
inductive Gen (step : α → List α) (S0 : List α) : α → Prop
  | base {x} : x ∈ S0 → Gen step S0 x
  | step {x y} : Gen step S0 y → x ∈ step y → Gen step S0 x

theorem mem_newElems (next : List α → List α) (S : List α) (x : α) :
    x ∈ newElems next S ↔ x ∈ next S ∧ x ∉ S := by
  unfold newElems
  rw [List.mem_eraseDups, List.mem_filter]
  simp

omit [DecidableEq α] in
theorem gen_iff_reflTransGen (step : α → List α) (S0 : List α) (x : α) :
    Gen step S0 x ↔ ∃ z ∈ S0, Relation.ReflTransGen (fun a b => b ∈ step a) z x := by
  constructor
  · intro h
    induction h with
    | base hb => exact ⟨_, hb, .refl⟩
    | step _ hxy ih => obtain ⟨z, hz, hzy⟩ := ih; exact ⟨z, hz, hzy.tail hxy⟩
  · rintro ⟨z, hz, h⟩
    induction h with
    | refl => exact .base hz
    | tail _ hbc ih => exact .step ih hbc

theorem countP_lt_of_imp (l : List α) (p q : α → Bool) (h : ∀ x, p x = true → q x = true)
    (y : α) (hy : y ∈ l) (hq : q y = true) (hp : p y = false) : l.countP p < l.countP q := by
  -- take `y` out: it counts for `q` and not for `p`, and on the rest `p` counts at most what `q` counts
  rw [(List.perm_cons_erase hy).countP_eq, (List.perm_cons_erase hy).countP_eq,
    List.countP_cons_of_neg (ne_true_of_eq_false hp), List.countP_cons_of_pos hq]
  exact Nat.lt_succ_of_le (List.countP_mono_left fun x _ => h x)

/-- how many entries of the universe `U` are not yet in `S`: the measure that shrinks with every
    round of `saturate` that adds something -/
def missing (U S : List α) : Nat := U.countP (fun x => decide (x ∉ S))

theorem missing_le (U S : List α) : missing U S ≤ U.length := List.countP_le_length

theorem missing_lt (U S T : List α) (h : ∀ x, x ∈ S → x ∈ T) (y : α)
    (hyU : y ∈ U) (hyS : y ∉ S) (hyT : y ∈ T) : missing U T < missing U S := by
  unfold missing
  -- "not in `T`" implies "not in `S`", and `y` is not in `S` but in `T`
  refine countP_lt_of_imp U _ _ (fun x hx => ?_) y hyU (decide_eq_true hyS) (decide_eq_false (not_not_intro hyT))
  simp only [decide_eq_true_eq] at hx ⊢
  exact fun hs => hx (h x hs)

def Closed (next : List α → List α) (S : List α) : Prop := ∀ x, x ∈ next S → x ∈ S

theorem newElems_nil_iff (next : List α → List α) (S : List α) :
    newElems next S = [] ↔ Closed next S := by
  unfold Closed
  simp only [List.eq_nil_iff_forall_not_mem, mem_newElems, not_and, Decidable.not_not]

theorem saturate_succ (next : List α → List α) (n : Nat) (S : List α) :
    saturate next (n + 1) S =
      if newElems next S = [] then S else saturate next n (S ++ newElems next S) := by
  rw [saturate]
  cases newElems next S <;> rfl

theorem subset_saturate (next : List α → List α) (fuel : Nat) (S : List α) (x : α) (h : x ∈ S) :
    x ∈ saturate next fuel S := by
  induction fuel generalizing S with
  | zero => exact h
  | succ n ih =>
    rw [saturate_succ]
    split
    · exact h
    · exact ih _ (List.mem_append_left _ h)

/-- with enough fuel (≥ number of universe elements still missing) the result is closed -/
theorem saturate_closed (next : List α → List α) (U : List α)
    (hU : ∀ S, (∀ x, x ∈ S → x ∈ U) → ∀ x, x ∈ next S → x ∈ U) :
    ∀ (fuel : Nat) (S : List α), (∀ x, x ∈ S → x ∈ U) → missing U S ≤ fuel →
      Closed next (saturate next fuel S) := by
  intro fuel
  induction fuel with
  | zero =>
    -- an `x ∈ next S` outside `S` would still be missing
    intro S hS hm x hx
    refine Decidable.by_contra fun hxS => ?_
    have := missing_lt U S (x :: S) (fun _ => List.mem_cons_of_mem _) x (hU S hS x hx) hxS List.mem_cons_self
    exact Nat.not_lt_zero _ (Nat.lt_of_lt_of_le this hm)
  | succ n ih =>
    intro S hS hm
    rw [saturate_succ]
    split
    · next hnil => exact (newElems_nil_iff next S).mp hnil
    · next hne =>
      obtain ⟨y, hy⟩ := List.exists_mem_of_ne_nil _ hne
      have hsub : ∀ x, x ∈ newElems next S → x ∈ next S ∧ x ∉ S := fun x => (mem_newElems next S x).mp
      refine ih _ (fun x hx => (List.mem_append.mp hx).elim (hS x) fun h => hU S hS x (hsub x h).1) ?_
      have := missing_lt U S (S ++ newElems next S) (fun x => List.mem_append_left _) y
        (hU S hS y (hsub y hy).1) (hsub y hy).2 (List.mem_append_right _ hy)
      exact Nat.le_of_lt_succ (Nat.lt_of_lt_of_le this hm)

theorem saturate_sound (step : α → List α) (S0 : List α) (fuel : Nat) (S : List α)
    (h : ∀ x, x ∈ S → Gen step S0 x) (x : α) (hx : x ∈ saturate (fun T => T.flatMap step) fuel S) :
    Gen step S0 x := by
  induction fuel generalizing S with
  | zero => exact h x hx
  | succ n ih =>
    rw [saturate_succ] at hx
    split at hx
    · exact h x hx
    · refine ih _ (fun z hz => ?_) hx
      rcases List.mem_append.mp hz with hz | hz
      · exact h z hz
      · obtain ⟨w, hw, hzw⟩ := List.mem_flatMap.mp ((mem_newElems _ S z).mp hz).1
        exact Gen.step (h w hw) hzw

/-- `saturate_exact` with the fuel it really needs: one round per universe element still missing
    from the seed -/
theorem saturate_exact' (step : α → List α) (U S0 : List α) (fuel : Nat)
    (hS0 : ∀ x, x ∈ S0 → x ∈ U) (hstep : ∀ y, y ∈ U → ∀ x, x ∈ step y → x ∈ U)
    (hfuel : missing U S0 ≤ fuel) (x : α) :
    x ∈ saturate (fun T => T.flatMap step) fuel S0 ↔ Gen step S0 x := by
  constructor
  · exact saturate_sound step S0 fuel S0 (fun y hy => Gen.base hy) x
  · intro hg
    have hcl := saturate_closed (fun T => T.flatMap step) U
      (fun S hS z hz => by
        obtain ⟨w, hw, hzw⟩ := List.mem_flatMap.mp hz
        exact hstep w (hS w hw) z hzw)
      fuel S0 hS0 hfuel
    induction hg with
    | base h => exact subset_saturate _ fuel S0 _ h
    | step _ hxy ih => exact hcl _ (List.mem_flatMap.mpr ⟨_, ih, hxy⟩)

/-- **saturation = least fixed point**: with a finite universe that contains the seeds and is
    closed under `step`, and fuel ≥ |universe|, membership in the result is derivability -/
theorem saturate_exact (step : α → List α) (U S0 : List α) (fuel : Nat)
    (hS0 : ∀ x, x ∈ S0 → x ∈ U) (hstep : ∀ y, y ∈ U → ∀ x, x ∈ step y → x ∈ U)
    (hfuel : U.length ≤ fuel) (x : α) :
    x ∈ saturate (fun T => T.flatMap step) fuel S0 ↔ Gen step S0 x :=
  saturate_exact' step U S0 fuel hS0 hstep (Nat.le_trans (missing_le U S0) hfuel) x

/-- the form the graph lemmas use: `U` need only contain the range of `step` (whatever `step` returns),
    not the seeds.  It is `saturate_exact'` on the universe `S0 ++ U`, of which only entries of `U`
    can be missing from `S0` -/
theorem saturate_exact_range (step : α → List α) (U S0 : List α) (fuel : Nat)
    (hstep : ∀ y x, x ∈ step y → x ∈ U) (hfuel : U.length ≤ fuel) (x : α) :
    x ∈ saturate (fun T => T.flatMap step) fuel S0 ↔ Gen step S0 x := by
  refine saturate_exact' step (S0 ++ U) S0 fuel (fun x hx => List.mem_append_left _ hx)
    (fun y _ x hx => List.mem_append_right _ (hstep y x hx)) ?_ x
  unfold missing
  rw [List.countP_append, List.countP_eq_zero.mpr (by simp), Nat.zero_add]
  exact Nat.le_trans List.countP_le_length hfuel

end

end PgmVerif
