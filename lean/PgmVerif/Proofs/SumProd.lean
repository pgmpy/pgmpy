/-
  Proofs/SumProd.lean — sums and maxima over the states of one variable / a list of variables at the
  level of functions `Asg → Rat`: both are the fold `foldVar op` of a list operation `op`, and what
  holds of every such fold is proved once.
-/
import PgmVerif.Proofs.Factor
import PgmVerif.Proofs.Range
import Mathlib.Algebra.BigOperators.Ring.Finset
import Mathlib.Algebra.BigOperators.Group.Finset.Sigma
import Mathlib.Tactic.Ring
namespace PgmVerif
open Factor

/-- Σ_{x < K v} g(a[v := x]) -/
def sumVar (K : Var → Nat) (v : Var) (g : Asg → Rat) : Asg → Rat :=
  fun a => ((List.range (K v)).map (fun x => g (upd a v x))).sum

/-- sum out the variables of the list, first one innermost -/
def sumOut (K : Var → Nat) : List Var → (Asg → Rat) → (Asg → Rat)
  | [], g => g
  | v :: vs, g => sumOut K vs (sumVar K v g)

/-- max_{x < K v} g(a[v := x]) -/
def maxVar (K : Var → Nat) (v : Var) (g : Asg → Rat) : Asg → Rat :=
  fun a => maxR ((List.range (K v)).map (fun x => g (upd a v x)))

/-- maximise over the variables of the list, first one innermost -/
def maxOut (K : Var → Nat) : List Var → (Asg → Rat) → (Asg → Rat)
  | [], g => g
  | v :: vs, g => maxOut K vs (maxVar K v g)

/-- agreement on genuine joint states -/
def EqB (K : Var → Nat) (g h : Asg → Rat) : Prop := ∀ a, Bounded K a → g a = h a

/-- `g` ignores the variables of `vs` -/
def IndepOf (g : Asg → Rat) (vs : List Var) : Prop := ∀ a v x, v ∈ vs → g (upd a v x) = g a

/-- the values `g (a[v := x])`, `x < K v`, folded by `op`.  `sumVar K` unfolds to `foldVar sumR K` and `maxVar K` to
    `foldVar maxR K` (both `rfl`); the `sumVar_*` lemmas below are the `foldVar_*` lemmas read through this
    unfolding. -/
def foldVar (op : List Rat → Rat) (K : Var → Nat) (v : Var) (g : Asg → Rat) : Asg → Rat :=
  fun a => op ((List.range (K v)).map (fun x => g (upd a v x)))

/-- fold out the variables of the list, first one innermost; `sumOut K` and `maxOut K` are `foldOut sumR K` and
    `foldOut maxR K` by `sumOut_eq_foldOut`, `maxOut_eq_foldOut` -/
def foldOut (op : List Rat → Rat) (K : Var → Nat) (vs : List Var) (g : Asg → Rat) : Asg → Rat :=
  vs.foldl (fun h v => foldVar op K v h) g

theorem sumOut_eq_foldOut (K : Var → Nat) (vs : List Var) (g : Asg → Rat) :
    sumOut K vs g = foldOut sumR K vs g := by
  induction vs generalizing g with
  | nil => rfl
  | cons v vs ih => exact ih _

theorem maxOut_eq_foldOut (K : Var → Nat) (vs : List Var) (g : Asg → Rat) :
    maxOut K vs g = foldOut maxR K vs g := by
  induction vs generalizing g with
  | nil => rfl
  | cons v vs ih => exact ih _

theorem foldOut_cons (op : List Rat → Rat) (K : Var → Nat) (v : Var) (vs : List Var) (g : Asg → Rat) :
    foldOut op K (v :: vs) g = foldOut op K vs (foldVar op K v g) := rfl

theorem foldOut_append (op : List Rat → Rat) (K : Var → Nat) (l l' : List Var) (g : Asg → Rat) :
    foldOut op K (l ++ l') g = foldOut op K l' (foldOut op K l g) :=
  List.foldl_append

theorem foldVar_congr_at {op : List Rat → Rat} {K : Var → Nat} {v : Var} {g h : Asg → Rat} {a : Asg}
    (e : ∀ x, x < K v → g (upd a v x) = h (upd a v x)) : foldVar op K v g a = foldVar op K v h a :=
  congrArg op (List.map_congr_left (fun x hx => e x (List.mem_range.mp hx)))

theorem foldVar_congr {op : List Rat → Rat} {K : Var → Nat} {g h : Asg → Rat} (v : Var) (e : EqB K g h) :
    EqB K (foldVar op K v g) (foldVar op K v h) :=
  fun _ ha => foldVar_congr_at fun x hx => e _ (upd_bounded ha v x hx)

theorem foldOut_congr {op : List Rat → Rat} {K : Var → Nat} (vs : List Var) {g h : Asg → Rat}
    (e : EqB K g h) : EqB K (foldOut op K vs g) (foldOut op K vs h) := by
  induction vs generalizing g h with
  | nil => exact e
  | cons v vs ih => exact ih (foldVar_congr v e)

/-- What the elimination proofs need of the list operation `op`. `P` singles out the constants that
    may be pulled out of `op`: every number for the sum (`P = fun _ => True`), the non-negative ones
    for the maximum (`P = (0 ≤ ·)`); it is kept by products and by `op` itself. -/
structure FoldLaw (P : Rat → Prop) (op : List Rat → Rat) : Prop where
  one : P 1
  mul : ∀ {x y : Rat}, P x → P y → P (x * y)
  fold : ∀ {l : List Rat}, (∀ x ∈ l, P x) → P (op l)
  smul : ∀ {c : Rat} (l : List Rat), P c → op (l.map (c * ·)) = c * op l

theorem sumLaw : FoldLaw (fun _ => True) sumR where
  one := trivial
  mul _ _ := trivial
  fold _ := trivial
  smul l _ := by simpa [sumR] using List.sum_map_mul_left l id _

theorem maxLaw : FoldLaw (0 ≤ ·) maxR where
  one := zero_le_one
  mul := mul_nonneg
  fold {l} h := by
    cases l with
    | nil => exact le_refl _
    | cons x l => exact h _ (maxR_mem _ (List.cons_ne_nil x l))
  smul {c} l hc := maxR_map_mul_left c hc l

theorem foldVar_mul_const {P : Rat → Prop} {op : List Rat → Rat} (L : FoldLaw P op) (K : Var → Nat) (v : Var)
    (c g : Asg → Rat) (a : Asg) (hc : ∀ x, c (upd a v x) = c a) (hP : P (c a)) :
    foldVar op K v (fun b => c b * g b) a = c a * foldVar op K v g a := by
  unfold foldVar
  rw [← L.smul _ hP, List.map_map]
  congr 1
  exact List.map_congr_left (fun x _ => congrArg (· * g (upd a v x)) (hc x))

theorem foldOut_mul_const {P : Rat → Prop} {op : List Rat → Rat} (L : FoldLaw P op) (K : Var → Nat)
    (vs : List Var) (c g : Asg → Rat) (hc : IndepOf c vs) (hP : ∀ a, P (c a)) (a : Asg) :
    foldOut op K vs (fun b => c b * g b) a = c a * foldOut op K vs g a := by
  induction vs generalizing g with
  | nil => rfl
  | cons v vs ih =>
    have h1 : foldVar op K v (fun b => c b * g b) = fun b => c b * foldVar op K v g b :=
      funext fun b => foldVar_mul_const L K v c g b (fun x => hc b v x List.mem_cons_self) (hP b)
    rw [foldOut_cons, h1]
    exact ih _ (fun a' w x hw => hc a' w x (List.mem_cons_of_mem _ hw))

/-- **absorbing a calibrated neighbour**: if `M` and `μ` ignore the variables `vs` and folding `β` over
    `vs` gives `μ`, then folding `M · β / μ` over `vs` gives back `M` (wherever `μ ≠ 0`) -/
theorem foldOut_mul_div_cancel {P : Rat → Prop} {op : List Rat → Rat} (L : FoldLaw P op) (K : Var → Nat)
    (vs : List Var) (M β μ : Asg → Rat) (hM : IndepOf M vs) (hμ : IndepOf μ vs)
    (hP : ∀ b, P (M b / μ b)) (a : Asg) (hcal : foldOut op K vs β a = μ a) (hne : μ a ≠ 0) :
    foldOut op K vs (fun b => M b * (β b / μ b)) a = M a := by
  have e : (fun b => M b * (β b / μ b)) = fun b => (M b / μ b) * β b := funext fun b => by ring
  have hc : IndepOf (fun b => M b / μ b) vs := fun b v x hv => by simp only [hM b v x hv, hμ b v x hv]
  rw [e, foldOut_mul_const L K vs _ β hc hP a, hcal, div_mul_cancel₀ _ hne]

theorem sumVar_eq (K : Var → Nat) (v : Var) (g : Asg → Rat) (a : Asg) :
    sumVar K v g a = ∑ x ∈ Finset.range (K v), g (upd a v x) :=
  sum_map_range _ _

theorem sumVar_congr_at {K : Var → Nat} {v : Var} {g h : Asg → Rat} {a : Asg}
    (e : ∀ x, x < K v → g (upd a v x) = h (upd a v x)) : sumVar K v g a = sumVar K v h a :=
  foldVar_congr_at e

theorem sumVar_congr {K : Var → Nat} {g h : Asg → Rat} (v : Var) (e : EqB K g h) :
    EqB K (sumVar K v g) (sumVar K v h) :=
  foldVar_congr v e

theorem sumOut_congr {K : Var → Nat} (vs : List Var) {g h : Asg → Rat} (e : EqB K g h) :
    EqB K (sumOut K vs g) (sumOut K vs h) := by
  rw [sumOut_eq_foldOut, sumOut_eq_foldOut]
  exact foldOut_congr vs e

theorem sumVar_upd_self (K : Var → Nat) (v : Var) (g : Asg → Rat) (a : Asg) (x : Nat) :
    sumVar K v g (upd a v x) = sumVar K v g a := by
  unfold sumVar
  simp only [upd_upd]

theorem sumVar_comm (K : Var → Nat) (u v : Var) (g : Asg → Rat) :
    sumVar K u (sumVar K v g) = sumVar K v (sumVar K u g) := by
  funext a
  by_cases h : u = v
  · subst h; rfl
  · simp only [sumVar_eq]
    rw [Finset.sum_comm]
    apply Finset.sum_congr rfl
    intro y _
    apply Finset.sum_congr rfl
    intro x _
    rw [upd_comm a u v x y h]

theorem sumVar_sumOut (K : Var → Nat) (v : Var) (vs : List Var) (g : Asg → Rat) :
    sumVar K v (sumOut K vs g) = sumOut K vs (sumVar K v g) := by
  induction vs generalizing g with
  | nil => rfl
  | cons u us ih => simp only [sumOut]; rw [ih, sumVar_comm]

/-- the order in which variables are summed out is irrelevant -/
theorem sumOut_perm (K : Var → Nat) {l l' : List Var} (p : l.Perm l') :
    ∀ g : Asg → Rat, sumOut K l g = sumOut K l' g := by
  induction p with
  | nil => intro g; rfl
  | cons v _ ih => intro g; simp only [sumOut]; exact ih _
  | swap u v l => intro g; simp only [sumOut]; rw [sumVar_comm]
  | trans _ _ ih1 ih2 => intro g; rw [ih1, ih2]

theorem sumOut_append (K : Var → Nat) (l l' : List Var) (g : Asg → Rat) :
    sumOut K (l ++ l') g = sumOut K l' (sumOut K l g) := by
  simp only [sumOut_eq_foldOut]
  exact foldOut_append ..

theorem indepOf_sumOut (K : Var → Nat) (vs : List Var) (g : Asg → Rat) : IndepOf (sumOut K vs g) vs := by
  induction vs generalizing g with
  | nil => intro _ _ _ hv; cases hv
  | cons u us ih =>
    intro a v x hv
    by_cases e : v = u
    · rw [e]; simp only [sumOut]; rw [← sumVar_sumOut, sumVar_upd_self]
    · exact ih _ a v x ((List.mem_cons.mp hv).resolve_left e)

theorem sumVar_mul_const (K : Var → Nat) (v : Var) (c g : Asg → Rat) (a : Asg)
    (hc : ∀ x, c (upd a v x) = c a) : sumVar K v (fun b => c b * g b) a = c a * sumVar K v g a :=
  foldVar_mul_const sumLaw K v c g a hc trivial

theorem sumOut_mul_const (K : Var → Nat) (vs : List Var) (c g : Asg → Rat) (hc : IndepOf c vs) (a : Asg) :
    sumOut K vs (fun b => c b * g b) a = c a * sumOut K vs g a := by
  rw [sumOut_eq_foldOut, sumOut_eq_foldOut]
  exact foldOut_mul_const sumLaw K vs c g hc (fun _ => trivial) a

theorem sumOut_mul_const_right (K : Var → Nat) (vs : List Var) (c g : Asg → Rat) (hc : IndepOf c vs)
    (a : Asg) : sumOut K vs (fun b => g b * c b) a = sumOut K vs g a * c a := by
  have e : (fun b => g b * c b) = fun b => c b * g b := funext fun b => mul_comm (g b) (c b)
  rw [e, sumOut_mul_const K vs c g hc a, mul_comm]

theorem sumOut_mul_div_cancel (K : Var → Nat) (vs : List Var) (M β μ : Asg → Rat) (hM : IndepOf M vs)
    (hμ : IndepOf μ vs) (a : Asg) (hcal : sumOut K vs β a = μ a) (hne : μ a ≠ 0) :
    sumOut K vs (fun b => M b * (β b / μ b)) a = M a := by
  rw [sumOut_eq_foldOut] at hcal ⊢
  exact foldOut_mul_div_cancel sumLaw K vs M β μ hM hμ (fun _ => trivial) a hcal hne

theorem sumVar_const_mul (K : Var → Nat) (v : Var) (c : Rat) (g : Asg → Rat) :
    sumVar K v (fun b => c * g b) = fun a => c * sumVar K v g a :=
  funext fun a => sumVar_mul_const K v (fun _ => c) g a fun _ => rfl

theorem sumOut_const_mul (K : Var → Nat) (c : Rat) (vs : List Var) (g : Asg → Rat) :
    sumOut K vs (fun b => c * g b) = fun a => c * sumOut K vs g a :=
  funext fun a => sumOut_mul_const K vs (fun _ => c) g (fun _ _ _ _ => rfl) a

theorem sumVar_div_self (K : Var → Nat) (g : Asg → Rat) (v : Var) (a : Asg)
    (hne : sumVar K v g a ≠ 0) : sumVar K v (fun b => g b / sumVar K v g a) a = 1 := by
  simp only [div_eq_mul_inv]
  rw [sumVar_eq, ← Finset.sum_mul, ← sumVar_eq, mul_inv_cancel₀ hne]

end PgmVerif
