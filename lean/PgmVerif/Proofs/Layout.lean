/-
  Proofs/Layout.lean — row-major layout (`ravel`, `unravel` and the enumeration of the multi-indices of a shape),
  lists and arrays read with a default, and positional overrides of assignments.
-/
import PgmVerif.Model.Basic
import Mathlib.Data.List.Nodup
import Mathlib.Data.List.GetD
namespace PgmVerif

theorem ravel_lt : ∀ (cs is : List Nat), InRange cs is → ravel cs is < cs.prod
  | [], [], _ => Nat.zero_lt_one
  | c :: cs, i :: is, ⟨hi, hr⟩ =>
    calc i * cs.prod + ravel cs is < i * cs.prod + cs.prod := Nat.add_lt_add_left (ravel_lt cs is hr) _
      _ = (i + 1) * cs.prod := (Nat.succ_mul ..).symm
      _ ≤ c * cs.prod := Nat.mul_le_mul_right _ hi

/-- the split of a row-major index into its leading coordinate and the rest (here and in `sum_range_mul`) -/
theorem mul_add_div_mod {P r : Nat} (i : Nat) (h : r < P) : (i * P + r) / P = i ∧ (i * P + r) % P = r :=
  (Nat.div_mod_unique (Nat.zero_lt_of_lt h)).mpr ⟨by rw [Nat.add_comm, Nat.mul_comm], h⟩

theorem unravel_ravel : ∀ (cs is : List Nat), InRange cs is → unravel cs (ravel cs is) = is
  | [], [], _ => rfl
  | c :: cs, i :: is, ⟨_, hr⟩ => by
    obtain ⟨h1, h2⟩ := mul_add_div_mod i (ravel_lt cs is hr)
    simp only [ravel, unravel]
    rw [h1, h2, unravel_ravel cs is hr]

theorem unravel_length (cs : List Nat) (n : Nat) : (unravel cs n).length = cs.length := by
  induction cs generalizing n with
  | nil => rfl
  | cons _ cs ih => exact congrArg Nat.succ (ih _)

theorem unravel_inRange (cs : List Nat) (n : Nat) (h : n < cs.prod) : InRange cs (unravel cs n) := by
  induction cs generalizing n with
  | nil => trivial
  | cons c cs ih =>
    rw [List.prod_cons] at h
    have hpos : 0 < cs.prod := Nat.pos_of_lt_mul_left h
    exact ⟨(Nat.div_lt_iff_lt_mul hpos).mpr h, ih _ (Nat.mod_lt _ hpos)⟩

theorem ravel_unravel : ∀ (cs : List Nat) (n : Nat), n < cs.prod → ravel cs (unravel cs n) = n := by
  intro cs
  induction cs with
  | nil => intro n h; exact (Nat.lt_one_iff.mp h).symm
  | cons c cs ih =>
    intro n h
    rw [List.prod_cons] at h
    simp only [unravel, ravel]
    rw [ih _ (Nat.mod_lt _ (Nat.pos_of_lt_mul_left h))]
    exact Nat.div_add_mod' n cs.prod

theorem inRange_length : ∀ (cs is : List Nat), InRange cs is → is.length = cs.length
  | [], [], _ => rfl
  | _ :: cs, _ :: is, h => congrArg Nat.succ (inRange_length cs is h.2)

/-- the C-order enumeration of a shape lists every in-range multi-index -/
theorem mem_tuples_of_inRange (cs is : List Nat) (h : InRange cs is) :
    is ∈ (allIdx cs).map (unravel cs) := by
  refine List.mem_map.mpr ⟨ravel cs is, ?_, unravel_ravel cs is h⟩
  simp [allIdx, ravel_lt cs is h]

theorem inRange_of_mem_tuples (cs is : List Nat) (h : is ∈ (allIdx cs).map (unravel cs)) :
    InRange cs is := by
  obtain ⟨n, hn, rfl⟩ := List.mem_map.mp h
  simp [allIdx] at hn
  exact unravel_inRange cs n hn

/-- the C-order enumeration of a shape lists no multi-index twice -/
theorem tuples_nodup (cs : List Nat) : ((allIdx cs).map (unravel cs)).Nodup := by
  refine List.Nodup.map_on ?_ List.nodup_range
  intro x hx y hy hxy
  simp [allIdx] at hx hy
  rw [← ravel_unravel cs x hx, ← ravel_unravel cs y hy, hxy]

theorem map_range_getD {α : Type} (l : List α) (d : α) :
    (List.range l.length).map (fun j => l.getD j d) = l := by
  apply List.ext_getElem
  · simp
  · intro i h _
    simp only [List.getElem_map, List.getElem_range]
    exact List.getD_eq_getElem _ _ _

theorem toArray_getD {α : Type} (l : List α) (i : Nat) (d : α) : l.toArray.getD i d = l.getD i d := by
  rw [Array.getD_eq_getD_getElem?, List.getElem?_toArray, List.getD_eq_getElem?_getD]

theorem array_getD_map {α β : Type} (g : α → β) (xs : Array α) (i : Nat) (d : α) :
    (xs.map g).getD i (g d) = g (xs.getD i d) := by
  rw [Array.getD_eq_getD_getElem?, Array.getD_eq_getD_getElem?, Array.getElem?_map, Option.getD_map]

theorem flatten_getD {α : Type} (d : α) (n : Nat) (t : List (List α)) (h : ∀ r ∈ t, r.length = n)
    (i j : Nat) (hj : j < n) : t.flatten.getD (i * n + j) d = (t.getD i []).getD j d := by
  induction t generalizing i with
  | nil => rfl
  | cons r rs ih =>
    have hr : r.length = n := h r List.mem_cons_self
    rw [List.flatten_cons]
    cases i with
    | zero => rw [Nat.zero_mul, Nat.zero_add, List.getD_cons_zero, List.getD_append _ _ _ _ (hr ▸ hj)]
    | succ i =>
      have e : (i + 1) * n + j = r.length + (i * n + j) := by
        rw [hr, Nat.succ_mul, Nat.add_right_comm, Nat.add_comm]
      rw [List.getD_cons_succ, ← ih (fun r' hr' => h r' (List.mem_cons_of_mem _ hr')) i, e,
        List.getD_append_right _ _ _ _ (Nat.le_add_right _ _), Nat.add_sub_cancel_left]

theorem not_contains_iff {l : List Nat} {v : Nat} : (!l.contains v) = true ↔ v ∉ l := by
  simp

theorem mem_filter_not_contains {l vs : List Nat} {v : Nat} :
    v ∈ l.filter (fun w => !vs.contains w) ↔ v ∈ l ∧ v ∉ vs :=
  List.mem_filter.trans (and_congr_right fun _ => not_contains_iff)

theorem overrideL_of_eq {a b : Asg} {w : Var} (h : a w = b w) (vs : List Var) (xs : List Nat) :
    overrideL a vs xs w = overrideL b vs xs w := by
  induction vs generalizing xs with
  | nil => exact h
  | cons v vs ih =>
    cases xs with
    | nil => exact h
    | cons x xs =>
      simp only [overrideL]
      split
      · rfl
      · exact ih xs

theorem overrideL_notin (a : Asg) (vs : List Var) (xs : List Nat) (w : Var) (h : w ∉ vs) :
    overrideL a vs xs w = a w := by
  induction vs generalizing xs with
  | nil => rfl
  | cons v vs ih =>
    cases xs with
    | nil => rfl
    | cons x xs =>
      simp only [overrideL]
      rw [if_neg (List.ne_of_not_mem_cons h), ih xs (List.not_mem_of_not_mem_cons h)]

theorem overrideL_mem (a : Asg) (w : Var) : ∀ (vs : List Var) (xs : List Nat) (b : Asg),
    w ∈ vs → xs.length = vs.length → overrideL a vs xs w = overrideL b vs xs w := by
  intro vs
  induction vs with
  | nil => intro _ _ hw; cases hw
  | cons v vs ih =>
    intro xs b hw hl
    cases xs with
    | nil => cases hl
    | cons x xs =>
      simp only [overrideL]
      split
      · rfl
      · next e => exact ih xs b ((List.mem_cons.mp hw).resolve_left e) (Nat.succ.inj hl)

theorem overrideL_congr (a b : Asg) (w : Var) (vs : List Var) (xs : List Nat)
    (h : w ∉ vs → a w = b w) (hl : xs.length = vs.length) : overrideL a vs xs w = overrideL b vs xs w :=
  if hw : w ∈ vs then overrideL_mem a w vs xs b hw hl else overrideL_of_eq (h hw) vs xs

theorem overrideL_map (a : Asg) (vs : List Var) (xs : List Nat) (hn : vs.Nodup)
    (hl : xs.length = vs.length) : vs.map (overrideL a vs xs) = xs := by
  induction vs generalizing xs with
  | nil => exact (List.eq_nil_of_length_eq_zero hl).symm
  | cons v vs ih =>
    cases xs with
    | nil => cases hl
    | cons x xs =>
      have hn' := List.nodup_cons.mp hn
      simp only [List.map_cons, overrideL, if_true]
      congr 1
      exact (List.map_congr_left fun w hw => if_neg fun (e : w = v) => hn'.1 (e ▸ hw)).trans
        (ih xs hn'.2 (Nat.succ.inj hl))

theorem overrideL_self (a b : Asg) (vs : List Var) (w : Var) (h : w ∈ vs) :
    overrideL a vs (vs.map b) w = b w := by
  induction vs with
  | nil => cases h
  | cons v vs ih =>
    simp only [List.map_cons, overrideL]
    split
    · next e => rw [e]
    · next e => exact ih ((List.mem_cons.mp h).resolve_left e)

theorem overrideL_pairs_mem (a : Asg) (ev : List (Var × Nat)) (hn : (ev.map (·.1)).Nodup)
    (p : Var × Nat) (hp : p ∈ ev) : overrideL a (ev.map (·.1)) (ev.map (·.2)) p.1 = p.2 := by
  induction ev with
  | nil => cases hp
  | cons q ev ih =>
    have hn' := List.nodup_cons.mp hn
    simp only [List.map_cons, overrideL]
    rcases List.mem_cons.mp hp with rfl | h
    · rw [if_pos rfl]
    · rw [if_neg fun (e : p.1 = q.1) => hn'.1 (List.mem_map.mpr ⟨p, h, e⟩)]
      exact ih hn'.2 h

theorem overrideL_perm (a : Asg) {ev ev' : List (Var × Nat)} (p : ev.Perm ev')
    (hn : (ev.map (·.1)).Nodup) (w : Var) :
    overrideL a (ev.map (·.1)) (ev.map (·.2)) w = overrideL a (ev'.map (·.1)) (ev'.map (·.2)) w := by
  by_cases hw : w ∈ ev.map (·.1)
  · obtain ⟨q, hq, rfl⟩ := List.mem_map.mp hw
    rw [overrideL_pairs_mem a ev hn q hq,
      overrideL_pairs_mem a ev' ((p.map _).nodup_iff.mp hn) q (p.mem_iff.mp hq)]
  · rw [overrideL_notin a _ _ w hw, overrideL_notin a _ _ w fun h => hw ((p.map _).mem_iff.mpr h)]

theorem asgOf_ravel (scope : List Var) (card : List Nat) (a : Asg)
    (h : InRange card (scope.map a)) (w : Var) (hw : w ∈ scope) :
    asgOf scope card (ravel card (scope.map a)) w = a w := by
  unfold asgOf
  rw [unravel_ravel card _ h]
  exact overrideL_self _ a scope w hw

end PgmVerif
