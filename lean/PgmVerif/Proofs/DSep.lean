/-
  Proofs/DSep.lean — the (node, direction) rule system of `active_trail_nodes` is exactly the
  textbook definition of an active trail: a sequence of adjacent nodes in which every interior
  non-collider is unobserved and every interior collider is an ancestor-or-self of an observed
  node (nodes may repeat).  In this file the set of such ancestors is any list `anc`; Props/C08 puts
  `g.ancestorsOf obs` in its place.
-/
import PgmVerif.Proofs.Acyclic
namespace PgmVerif
open Relation

namespace DSep
variable (g : DG) (obs anc : List Var)

def E (a b : Var) : Prop := (a, b) ∈ g.edges
def Adj (a b : Var) : Prop := E g a b ∨ E g b a

/-- the condition on an interior node `b` between `a` and `c` -/
def Ok3 (a b c : Var) : Prop :=
  ((E g a b ∧ E g c b) → b ∈ anc) ∧ (¬ (E g a b ∧ E g c b) → b ∉ obs)

/-- the trail, written backwards (head = current end point), is active -/
def ActiveRev : List Var → Prop
  | c :: b :: a :: rest => Adj g b c ∧ Ok3 g obs anc a b c ∧ ActiveRev (b :: a :: rest)
  | [b, a] => Adj g a b
  | _ => True

/-- direction in which the head was reached: `true` = against an arrow (from a child, or the
    start), `false` = along an arrow (from a parent) -/
def ArrDir : List Var → Bool → Prop
  | n :: prev :: _, d => (d = true ∧ E g n prev) ∨ (d = false ∧ E g prev n)
  | [_], d => d = true
  | [], _ => False

theorem activeRev_cons_cons (c b : Var) (l : List Var) :
    ActiveRev g obs anc (c :: b :: l) ↔
      Adj g b c ∧ (∀ a ∈ l.head?, Ok3 g obs anc a b c) ∧ ActiveRev g obs anc (b :: l) := by
  cases l with
  | nil => simp only [ActiveRev, List.head?_nil, Option.mem_def, reduceCtorEq, false_imp_iff, implies_true, and_true]
  | cons a l => simp only [ActiveRev, List.head?_cons, Option.mem_def, Option.some.injEq, forall_eq']

variable {g} in
theorem ArrDir.adj {c b : Var} {l : List Var} {d : Bool} (h : ArrDir g (c :: b :: l) d) : Adj g b c :=
  h.elim (fun h => .inr h.2) (fun h => .inl h.2)

theorem arrDir_exists : ∀ l : List Var, l ≠ [] → ActiveRev g obs anc l → ∃ d, ArrDir g l d
  | [], h, _ => absurd rfl h
  | [_], _, _ => ⟨true, rfl⟩
  | _ :: _ :: _, _, h => ((activeRev_cons_cons ..).mp h).1.elim
      (fun h => ⟨false, .inr ⟨rfl, h⟩⟩) (fun h => ⟨true, .inl ⟨rfl, h⟩⟩)

variable {g} in
/-- in an acyclic graph the two arrival directions say whether `b` is a collider, so `Ok3` is the side
    condition of the traversal rule that leads from `(b, d)` to `(c, d')` -/
theorem ok3_iff (hac : Acyclic g.edges) {a b c : Var} {l l' : List Var} {d d' : Bool}
    (h : ArrDir g (b :: a :: l) d) (h' : ArrDir g (c :: b :: l') d') :
    Ok3 g obs anc a b c ↔ if d = false ∧ d' = true then b ∈ anc else b ∉ obs := by
  have no2 : ∀ {u v}, E g u v → ¬ E g v u := fun h1 h2 => hac _ (.tail (.single h1) h2)
  have hcol : E g a b ∧ E g c b ↔ d = false ∧ d' = true := by
    rcases h with ⟨rfl, h⟩ | ⟨rfl, h⟩ <;> rcases h' with ⟨rfl, h'⟩ | ⟨rfl, h'⟩
    · simp [no2 h]
    · simp [no2 h]
    · simp [h, h']
    · simp [no2 h']
  unfold Ok3
  rw [hcol]
  split <;> simp [*]

end DSep
open DSep

/-- the four rules of `active_trail_nodes` as one: the step from `(b, d)` to `(c, d')` follows an edge in direction
    `d'`, through a collider (`d = false`, `d' = true`) if `b ∈ anc` and through a non-collider if `b ∉ obs`
    (`ArrDir` reads the first two nodes only: `l` is arbitrary) -/
theorem mem_trailNext (g : DG) (obs anc : List Var) (b c : Var) (d d' : Bool) (l : List Var) :
    (c, d') ∈ g.trailNext obs anc (b, d) ↔
      (if d = false ∧ d' = true then b ∈ anc else b ∉ obs) ∧ ArrDir g (c :: b :: l) d' := by
  unfold DG.trailNext ArrDir E
  cases d <;> cases d' <;> simp [g.mem_parents, g.mem_children]

theorem gen_to_trail (g : DG) (hac : Acyclic g.edges) (obs anc : List Var) (x : Var) (s : DG.St)
    (h : Gen (g.trailNext obs anc) [(x, true)] s) :
    ∃ l : List Var, l.head? = some s.1 ∧ l.getLast? = some x ∧ ActiveRev g obs anc l ∧ ArrDir g l s.2 := by
  induction h with
  | base hb => cases List.mem_singleton.mp hb; exact ⟨[x], rfl, rfl, trivial, rfl⟩
  | @step s' y _ hs ih =>
    obtain ⟨l, hh, hl, hact, harr⟩ := ih
    obtain ⟨tl, rfl⟩ := List.head?_eq_some_iff.mp hh
    obtain ⟨hcond, harr'⟩ := (mem_trailNext g obs anc y.1 s'.1 y.2 s'.2 tl).mp hs
    refine ⟨s'.1 :: y.1 :: tl, rfl, by rwa [List.getLast?_cons_cons], ?_, harr'⟩
    refine (activeRev_cons_cons ..).mpr ⟨harr'.adj, ?_, hact⟩
    cases tl with
    | nil => simp
    | cons a _ => simpa using (ok3_iff obs anc hac harr harr').mpr hcond

/-- the converse of `gen_to_trail`.  `hx` is the side condition "the start node is unobserved": `ActiveRev` says nothing
    about the end points of a trail, while the traversal leaves the start state `(x, true)` only if `x ∉ obs`; it is
    used at the second node of the trail and nowhere else -/
theorem trail_to_gen (g : DG) (hac : Acyclic g.edges) (obs anc : List Var) (x : Var) (hx : x ∉ obs)
    (l : List Var) (n : Var) (d : Bool) (hh : l.head? = some n) (hl : l.getLast? = some x)
    (hact : ActiveRev g obs anc l) (harr : ArrDir g l d) : Gen (g.trailNext obs anc) [(x, true)] (n, d) := by
  induction l generalizing n d with
  | nil => cases hh
  | cons c tl ih =>
    cases Option.some.inj hh
    cases tl with
    | nil =>
      cases Option.some.inj hl; cases (harr : d = true)
      exact Gen.base List.mem_cons_self
    | cons b l =>
      obtain ⟨hadj, hok, hact'⟩ := (activeRev_cons_cons ..).mp hact
      rw [List.getLast?_cons_cons] at hl
      obtain ⟨d₁, harr₁⟩ := arrDir_exists g obs anc (b :: l) (List.cons_ne_nil _ _) hact'
      refine Gen.step (ih b d₁ rfl hl hact' harr₁) ((mem_trailNext g obs anc b c d₁ d l).mpr ⟨?_, harr⟩)
      cases l with
      | nil => cases Option.some.inj hl; cases (harr₁ : d₁ = true); simpa using hx
      | cons a l => exact (ok3_iff obs anc hac harr₁ harr).mp (hok a rfl)

theorem DG.isDconnected_iff (g : DG) (x y : Var) (obs : List Var) :
    g.isDconnected x y obs = true ↔ y ∉ obs ∧ ∃ d, (y, d) ∈ g.reach obs x := by
  unfold DG.isDconnected DG.activeNodes
  rw [List.contains_iff_mem, List.mem_eraseDups, List.mem_filter, List.mem_map, and_comm]
  simp only [Prod.exists, exists_and_right, exists_eq_right, Bool.not_eq_true', List.contains_eq_mem,
    decide_eq_false_iff_not]

end PgmVerif
