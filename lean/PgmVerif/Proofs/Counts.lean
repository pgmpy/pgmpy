/-
  Proofs/Counts.lean — facts about the weighted counts `countAt` shared by the estimators (C06) and the
  structure scores (C10): they depend on the rows as a multiset, on the assignment through the counted
  variables only, and linearly on the weights.
-/
import PgmVerif.Model.Learn
import Mathlib.Algebra.BigOperators.Ring.List
import Mathlib.Algebra.Ring.Rat
namespace PgmVerif

theorem countAt_perm {data data' : Data} (p : data.Perm data') (vs : List Var) (a : Asg) :
    countAt data vs a = countAt data' vs a := by
  unfold countAt
  exact (p.map _).sum_eq

theorem rowMatches_congr (vs : List Var) (a b : Asg) (h : ∀ v ∈ vs, a v = b v) (r : List Nat) :
    rowMatches vs a r = rowMatches vs b r := by
  unfold rowMatches
  induction vs with
  | nil => rfl
  | cons v vs ih =>
    simp only [List.all_cons]
    rw [h v List.mem_cons_self, ih (fun w hw => h w (List.mem_cons_of_mem _ hw))]

theorem countAt_congr (data : Data) (vs : List Var) (a b : Asg) (h : ∀ v ∈ vs, a v = b v) :
    countAt data vs a = countAt data vs b := by
  unfold countAt
  simp only [rowMatches_congr vs a b h]

/-- every row weight multiplied by `s` -/
def scaleWeights (s : Rat) (data : Data) : Data := data.map (fun p => (p.1, s * p.2))

theorem countAt_scale (s : Rat) (data : Data) (vs : List Var) (a : Asg) :
    countAt (scaleWeights s data) vs a = s * countAt data vs a := by
  unfold countAt scaleWeights
  rw [List.map_map, ← List.sum_map_mul_left]
  refine congrArg List.sum (List.map_congr_left (fun p _ => ?_))
  simp only [Function.comp, mul_ite, mul_zero]

end PgmVerif
