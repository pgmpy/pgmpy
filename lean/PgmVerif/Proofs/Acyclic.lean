/-
  Proofs/Acyclic.lean — acyclicity of edge lists, and the lemma behind every cycle check in
  the code base: adding u→v to an acyclic graph keeps it acyclic when there is no path v ⇝ u.
  Also: `descendantsOf`, `ancestorsOf` and `hasPathG` compute reachability along edges.
-/
import PgmVerif.Proofs.Closure
import PgmVerif.Model.Search
namespace PgmVerif
open Relation

/-- a graph whose edges stay inside its node list -/
def DG.WFG (g : DG) : Prop := ∀ e ∈ g.edges, e.1 ∈ g.nodes ∧ e.2 ∈ g.nodes

theorem DG.WFG.mono {g g' : DG} (hw : g.WFG) (hn : ∀ v ∈ g.nodes, v ∈ g'.nodes)
    (he : ∀ e ∈ g'.edges, e ∈ g.edges) : g'.WFG :=
  fun e h => ⟨hn _ (hw e (he e h)).1, hn _ (hw e (he e h)).2⟩

theorem DG.mem_parents (g : DG) (u v : Var) : u ∈ g.parents v ↔ (u, v) ∈ g.edges := by
  simp only [DG.parents, List.mem_map, List.mem_filter, beq_iff_eq, Prod.exists, exists_and_right,
    exists_eq_right]

theorem DG.mem_children (g : DG) (u v : Var) : v ∈ g.children u ↔ (u, v) ∈ g.edges := by
  simp only [DG.children, List.mem_map, List.mem_filter, beq_iff_eq, Prod.exists, exists_eq_right]

def Rel (E : List (Var × Var)) : Var → Var → Prop := fun a b => (a, b) ∈ E

def Acyclic (E : List (Var × Var)) : Prop := ∀ x, ¬ TransGen (Rel E) x x

theorem acyclic_nil : Acyclic [] := fun _ h => by
  obtain ⟨_, hb, _⟩ := TransGen.head'_iff.mp h
  cases hb

theorem acyclic_sub {E E' : List (Var × Var)} (hsub : ∀ e ∈ E', e ∈ E) (h : Acyclic E) : Acyclic E' := by
  intro x hx
  exact h x (TransGen.mono (fun a b hab => hsub (a, b) hab) x x hx)

theorem path_add_edge (E : List (Var × Var)) (u v : Var) (x y : Var)
    (h : TransGen (Rel (E ++ [(u, v)])) x y) :
    TransGen (Rel E) x y ∨ (ReflTransGen (Rel E) x u ∧ ReflTransGen (Rel E) v y) := by
  induction h with
  | @single b h =>
    rcases List.mem_append.mp h with h | h
    · exact Or.inl (TransGen.single h)
    · cases List.mem_singleton.mp h
      exact Or.inr ⟨ReflTransGen.refl, ReflTransGen.refl⟩
  | @tail b c _ hbc ih =>
    rcases List.mem_append.mp hbc with hbc | hbc
    · rcases ih with ih | ⟨i1, i2⟩
      · exact Or.inl (TransGen.tail ih hbc)
      · exact Or.inr ⟨i1, ReflTransGen.tail i2 hbc⟩
    · cases List.mem_singleton.mp hbc
      rcases ih with ih | ⟨i1, _⟩
      · exact Or.inr ⟨ih.to_reflTransGen, ReflTransGen.refl⟩
      · exact Or.inr ⟨i1, ReflTransGen.refl⟩

theorem acyclic_add_edge (E : List (Var × Var)) (u v : Var) (hE : Acyclic E)
    (hno : ¬ ReflTransGen (Rel E) v u) : Acyclic (E ++ [(u, v)]) := by
  intro x hx
  rcases path_add_edge E u v x x hx with h | ⟨h1, h2⟩
  · exact hE x h
  · exact hno (h2.trans h1)

theorem DG.mem_descendantsOf (g : DG) (hw : g.WFG) (zs : List Var) (u : Var) :
    u ∈ g.descendantsOf zs ↔ ∃ z ∈ zs, ReflTransGen (Rel g.edges) z u := by
  unfold DG.descendantsOf
  rw [saturate_exact_range g.children g.nodes _ _
    (fun y x hx => (hw _ ((g.mem_children y x).mp hx)).2) (Nat.le_succ _), gen_iff_reflTransGen]
  simp only [List.mem_eraseDups, g.mem_children]
  -- the left side speaks of `fun a b => (a, b) ∈ g.edges`, which is `Rel g.edges` unfolded
  rfl

theorem DG.mem_ancestorsOf (g : DG) (hw : g.WFG) (zs : List Var) (u : Var) :
    u ∈ g.ancestorsOf zs ↔ ∃ z ∈ zs, ReflTransGen (Rel g.edges) u z := by
  unfold DG.ancestorsOf
  rw [saturate_exact_range g.parents g.nodes _ _
    (fun y x hx => (hw _ ((g.mem_parents x y).mp hx)).1) (Nat.le_succ _), gen_iff_reflTransGen]
  -- the right side becomes `ReflTransGen (Function.swap (Rel g.edges)) z u`; `rfl` unfolds `swap` and `Rel`
  simp only [List.mem_eraseDups, g.mem_parents, ← reflTransGen_swap (r := Rel g.edges)]
  rfl

theorem hasPathG_iff (g : DG) (hw : g.WFG) (v u : Var) :
    hasPathG g v u = true ↔ ReflTransGen (Rel g.edges) v u := by
  unfold hasPathG
  rw [List.contains_iff_mem, g.mem_descendantsOf hw]
  simp only [List.mem_singleton, exists_eq_left]

/-- `hne` excludes the empty path, which exists at any vertex, node of the graph or not -/
theorem nodes_of_path {g : DG} (hw : g.WFG) {v u : Var} (h : ReflTransGen (Rel g.edges) v u) (hne : v ≠ u) :
    v ∈ g.nodes ∧ u ∈ g.nodes := by
  refine ⟨?_, ?_⟩
  · rcases ReflTransGen.cases_head h with e | ⟨b, hvb, _⟩
    · exact absurd e hne
    · exact (hw _ hvb).1
  · rcases ReflTransGen.cases_tail h with e | ⟨b, _, hbu⟩
    · exact absurd e.symm hne
    · exact (hw _ hbu).2

end PgmVerif
