/-
  Proofs/Meek.lean — soundness of the orientation rules that `PC.skeleton_to_pdag` applies after the
  v-structures (Meek's rules R1–R3), stated for ONE member of the Markov equivalence class: whenever the
  premises of a rule hold in an acyclic graph `E` that has no unshielded collider beyond those of the
  pattern, the edge the rule orients has that direction in `E`.  Since this holds for every member, an
  edge oriented by a rule is compelled.
-/
import PgmVerif.Proofs.Acyclic
namespace PgmVerif
open Relation

/-- adjacency in a directed edge list -/
def AdjD (E : List (Var × Var)) (a b : Var) : Prop := (a, b) ∈ E ∨ (b, a) ∈ E

/-- unshielded collider a → b ← c -/
def Collider (E : List (Var × Var)) (a b c : Var) : Prop :=
  (a, b) ∈ E ∧ (c, b) ∈ E ∧ a ≠ c ∧ ¬ AdjD E a c

theorem Acyclic.edge_of_path {E : List (Var × Var)} (hacyc : Acyclic E) {a c : Var}
    (hp : TransGen (Rel E) a c) (hadj : AdjD E a c) : (a, c) ∈ E :=
  hadj.resolve_right fun hca => hacyc a (hp.tail hca)

/-- **R1**: a → b, b – c, a and c non-adjacent, and a → b ← c is not a v-structure of the class ⇒ b → c -/
theorem meek_rule1 (E : List (Var × Var)) (a b c : Var)
    (hab : (a, b) ∈ E) (hbc : AdjD E b c) (hne : a ≠ c) (hac : ¬ AdjD E a c)
    (hnov : ¬ Collider E a b c) : (b, c) ∈ E :=
  hbc.resolve_right fun h => hnov ⟨hab, h, hne, hac⟩

/-- **R2**: a → b → c and a – c ⇒ a → c (the other direction closes a directed cycle) -/
theorem meek_rule2 (E : List (Var × Var)) (hacyc : Acyclic E) (a b c : Var)
    (hab : (a, b) ∈ E) (hbc : (b, c) ∈ E) (hadj : AdjD E a c) : (a, c) ∈ E :=
  hacyc.edge_of_path (.tail (.single hab) hbc) hadj

/-- **R3**: a – b, a – c, a – d, c → b, d → b, c and d non-adjacent, and c → a ← d is not a v-structure of the class ⇒ a → b -/
theorem meek_rule3 (E : List (Var × Var)) (hacyc : Acyclic E) (a b c d : Var)
    (hcb : (c, b) ∈ E) (hdb : (d, b) ∈ E) (hab : AdjD E a b) (hac : AdjD E a c) (had : AdjD E a d)
    (hne : c ≠ d) (hcd : ¬ AdjD E c d) (hnov : ¬ Collider E c a d) : (a, b) ∈ E :=
  -- b → a would force c → a and d → a (paths c → b → a, d → b → a): an unshielded collider at a
  hab.resolve_right fun hba => hnov
    ⟨hacyc.edge_of_path (.tail (.single hcb) hba) hac.symm, hacyc.edge_of_path (.tail (.single hdb) hba) had.symm, hne, hcd⟩

/-- **R4** (needed only with background knowledge; `skeleton_to_pdag` does not apply it): d → c → b, a – b, a – d, b and d
    non-adjacent, and b → a ← d is not a v-structure of the class ⇒ a → b -/
theorem meek_rule4 (E : List (Var × Var)) (hacyc : Acyclic E) (a b c d : Var)
    (hdc : (d, c) ∈ E) (hcb : (c, b) ∈ E) (hab : AdjD E a b) (had : AdjD E a d)
    (hne : b ≠ d) (hbd : ¬ AdjD E b d) (hnov : ¬ Collider E b a d) : (a, b) ∈ E :=
  hab.resolve_right fun hba => hnov
    ⟨hba, hacyc.edge_of_path (.tail (.tail (.single hdc) hcb) hba) had.symm, hne, hbd⟩

end PgmVerif
