/-
  Proofs/MassBound.lean — the tolerance version of "a validated network has joint mass 1":
  if every CPD column sums to something in [lo, hi] (what `check_model` accepts with its tolerance),
  the joint mass of an n-node network lies in [lo^n, hi^n].
-/
import PgmVerif.Proofs.VE
import Mathlib.Algebra.Order.BigOperators.Group.Finset
namespace PgmVerif
open Factor

/-- pointwise order on genuine joint states -/
def LeB (K : Var → Nat) (g h : Asg → Rat) : Prop := ∀ a, Bounded K a → g a ≤ h a

theorem sumVar_mono {K : Var → Nat} {g h : Asg → Rat} (v : Var) (e : LeB K g h) :
    LeB K (sumVar K v g) (sumVar K v h) := by
  intro a ha
  rw [sumVar_eq, sumVar_eq]
  apply Finset.sum_le_sum
  intro x hx
  exact e _ (upd_bounded ha v x (Finset.mem_range.mp hx))

theorem sumOut_mono {K : Var → Nat} (vs : List Var) {g h : Asg → Rat} (e : LeB K g h) :
    LeB K (sumOut K vs g) (sumOut K vs h) := by
  induction vs generalizing g h with
  | nil => exact e
  | cons v vs ih => exact ih (sumVar_mono v e)

/-- **joint mass within the validation tolerance**: CPDs listed children-first, non-negative, every column sum in `[lo, hi]`
    with `0 ≤ lo` ⇒ the sum of the CPD product over all variables lies in `[lo^n, hi^n]` -/
theorem joint_mass_bounds (K : Var → Nat) (lo hi : Rat) (hlo : 0 ≤ lo) (cpds : List (Var × Factor))
    (hcol : ∀ p ∈ cpds, ∀ a, Bounded K a → lo ≤ sumVar K p.1 p.2.den a ∧ sumVar K p.1 p.2.den a ≤ hi)
    (hnn : NonnegF K (cpds.map (·.2))) (hpair : cpds.Pairwise (fun p q => p.1 ∉ q.2.scope))
    (a : Asg) (ha : Bounded K a) :
    lo ^ cpds.length ≤ sumOut K (cpds.map (·.1)) (jointDen (cpds.map (·.2))) a ∧
    sumOut K (cpds.map (·.1)) (jointDen (cpds.map (·.2))) a ≤ hi ^ cpds.length := by
  induction cpds generalizing a with
  | nil => exact ⟨le_of_eq (pow_zero lo), le_of_eq (pow_zero hi).symm⟩
  | cons p ps ih =>
    have hp := List.pairwise_cons.mp hpair
    have hnn' : NonnegF K (ps.map (·.2)) := fun f hf => hnn f (List.mem_cons_of_mem _ hf)
    have ih := ih (fun q hq => hcol q (List.mem_cons_of_mem _ hq)) hnn' hp.2 a ha
    have hc := hcol p List.mem_cons_self
    have hhi : 0 ≤ hi := hlo.trans ((hc a ha).1.trans (hc a ha).2)
    have hJ : ∀ b, Bounded K b → 0 ≤ jointDen (ps.map (·.2)) b := fun b hb =>
      -- `maxLaw` only as the carrier of "the non-negative numbers contain 1 and are closed under products"
      jointDen_closed maxLaw b _ fun f hf => hnn' f hf b hb
    -- the innermost sum is the column sum of `p` times the rest of the product
    have inner : ∀ b, sumVar K p.1 (jointDen (p.2 :: ps.map (·.2))) b
        = sumVar K p.1 p.2.den b * jointDen (ps.map (·.2)) b := fun b => by
      rw [mul_comm]
      exact sumVar_jointDen_cons K p.2 _ p.1 (fun f hf => by
        obtain ⟨q, hq, rfl⟩ := List.mem_map.mp hf
        exact hp.1 q hq) b
    have lower : LeB K (fun b => lo * jointDen (ps.map (·.2)) b) (sumVar K p.1 (jointDen (p.2 :: ps.map (·.2)))) :=
      fun b hb => (inner b).symm ▸ mul_le_mul_of_nonneg_right (hc b hb).1 (hJ b hb)
    have upper : LeB K (sumVar K p.1 (jointDen (p.2 :: ps.map (·.2)))) (fun b => hi * jointDen (ps.map (·.2)) b) :=
      fun b hb => (inner b).symm ▸ mul_le_mul_of_nonneg_right (hc b hb).2 (hJ b hb)
    have l2 := sumOut_mono (ps.map (·.1)) lower a ha
    have u2 := sumOut_mono (ps.map (·.1)) upper a ha
    rw [sumOut_const_mul] at l2 u2
    simp only [List.map_cons, sumOut, List.length_cons, pow_succ']
    exact ⟨(mul_le_mul_of_nonneg_left ih.1 hlo).trans l2, u2.trans (mul_le_mul_of_nonneg_left ih.2 hhi)⟩

end PgmVerif
