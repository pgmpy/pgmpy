/-
  Proofs/Chordal.lean — the easy half of Fulkerson & Gross (1965): a graph that has a perfect elimination
  ordering has no chordless cycle of length ≥ 4.  Together with `peo_eliminate` (Proofs/Elim.lean) this makes
  "the graph filled in by ANY elimination order is chordal" a theorem.
-/
import PgmVerif.Model.Basic
namespace PgmVerif
namespace UG

/-- perfect elimination ordering, recursive form: the later neighbours of the head are pairwise adjacent -/
def PEO (Adj : Var → Var → Prop) : List Var → Prop
  | [] => True
  | v :: post => (∀ a ∈ post, ∀ b ∈ post, a ≠ b → Adj v a → Adj v b → Adj a b) ∧ PEO Adj post

theorem PEO.of_append {Adj : Var → Var → Prop} (pre : List Var) {l : List Var} (h : PEO Adj (pre ++ l)) : PEO Adj l := by
  induction pre with
  | nil => exact h
  | cons _ _ ih => exact ih h.2

theorem PEO.congr {Adj Adj' : Var → Var → Prop} {l : List Var} (hiff : ∀ a ∈ l, ∀ b ∈ l, Adj a b ↔ Adj' a b)
    (h : PEO Adj l) : PEO Adj' l := by
  induction l with
  | nil => trivial
  | cons v l ih =>
    have hl : ∀ a ∈ l, a ∈ v :: l := fun _ ha => List.mem_cons_of_mem _ ha
    exact ⟨fun a ha b hb hab hva hvb => (hiff a (hl a ha) b (hl b hb)).mp
      (h.1 a ha b hb hab ((hiff v List.mem_cons_self a (hl a ha)).mpr hva) ((hiff v List.mem_cons_self b (hl b hb)).mpr hvb)),
      ih (fun a ha b hb => hiff a (hl a ha) b (hl b hb)) h.2⟩

/-- a closed walk `f 0, f 1, …, f (n-1), f 0` on distinct vertices -/
structure Cycle (Adj : Var → Var → Prop) (f : Nat → Var) (n : Nat) : Prop where
  inj : ∀ i j, i < n → j < n → f i = f j → i = j
  step : ∀ k, k + 1 < n → Adj (f k) (f (k + 1))
  close : Adj (f (n - 1)) (f 0)

/-- a chord: two cycle positions that are not neighbours on the cycle, yet adjacent -/
def HasChord (Adj : Var → Var → Prop) (f : Nat → Var) (n : Nat) : Prop :=
  ∃ i j, i + 1 < j ∧ j < n ∧ ¬ (i = 0 ∧ j = n - 1) ∧ Adj (f i) (f j)

/-- the positions `p < q` of the two cycle neighbours of position `i`, with the side conditions in the shape `HasChord` asks for -/
theorem Cycle.nbrs {Adj : Var → Var → Prop} (hsymm : ∀ u v, Adj u v → Adj v u) {f : Nat → Var} {n : Nat}
    (hn : 4 ≤ n) (hc : Cycle Adj f n) (i : Nat) (hi : i < n) :
    ∃ p q, Adj (f i) (f p) ∧ Adj (f i) (f q) ∧
      (p + 1 < q ∧ q < n ∧ ¬ (p = 0 ∧ q = n - 1) ∧ p ≠ i ∧ q ≠ i) := by
  -- with `n = m + 4` the positions `n - 1` and `k + 1` below compute, and the arithmetic meets no truncated subtraction
  obtain ⟨m, rfl⟩ := Nat.exists_eq_add_of_le' hn
  obtain _ | j := i
  · exact ⟨1, m + 3, hc.step 0 (by omega), hsymm _ _ hc.close, by simp⟩
  obtain rfl | hl := Nat.eq_or_lt_of_le (Nat.le_of_lt_succ (Nat.lt_of_succ_lt_succ hi))
  · exact ⟨0, m + 2, hc.close, hsymm _ _ (hc.step (m + 2) (by omega)), by simp⟩
  · exact ⟨j, j + 2, hsymm _ _ (hc.step j (by omega)), hc.step (j + 1) (by omega), by simp; omega⟩

theorem peo_cycle_has_chord (Adj : Var → Var → Prop) (hsymm : ∀ u v, Adj u v → Adj v u)
    (order : List Var) (hpeo : PEO Adj order) (f : Nat → Var) (n : Nat) (hn : 4 ≤ n) (hc : Cycle Adj f n)
    (hmem : ∀ i, i < n → f i ∈ order) : HasChord Adj f n := by
  induction order with
  | nil => exact absurd (hmem 0 (by omega)) List.not_mem_nil
  | cons u rest ih =>
    by_cases hu : ∃ i, i < n ∧ f i = u
    · -- `u = f i` is the first cycle vertex in the ordering: its two cycle neighbours come later, so they are adjacent
      obtain ⟨i, hi, rfl⟩ := hu
      have inrest : ∀ j, j < n → j ≠ i → f j ∈ rest := fun j hj hji =>
        (List.mem_cons.mp (hmem j hj)).resolve_left fun e => hji (hc.inj j i hj hi e)
      obtain ⟨p, q, hap, haq, hpq, hq, hne, hpi, hqi⟩ := hc.nbrs hsymm hn i hi
      have hp : p < n := Nat.lt_trans (Nat.lt_of_succ_lt hpq) hq
      exact ⟨p, q, hpq, hq, hne, hpeo.1 _ (inrest p hp hpi) _ (inrest q hq hqi)
        (fun e => Nat.ne_of_lt (Nat.lt_of_succ_lt hpq) (hc.inj p q hp hq e)) hap haq⟩
    · exact ih hpeo.2 fun i hi =>
        (List.mem_cons.mp (hmem i hi)).resolve_left fun e => hu ⟨i, hi, e⟩

end UG
end PgmVerif
