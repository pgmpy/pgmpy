/-
  Proofs/Sample.lean — the law of ancestral (forward) sampling as an explicit finite list of
  weighted outcomes, and of likelihood weighting as outcomes carrying a proposal mass and a weight.
  Every primitive draw "state x of v with probability c.den(row[v := x])" is taken as given (numpy's
  generator is outside the proof); what is proved is that composing the draws in a topological order
  yields exactly the joint distribution.
-/
import PgmVerif.Proofs.VE
namespace PgmVerif
open Factor

/-- a finite law: outcomes (partial rows, as assignments) with their masses -/
abbrev Law := List (Asg × Rat)

/-- draw variable `v` from CPD `c` given the row so far: every outcome branches into the `K v`
    states of `v`, its mass multiplied by the CPD entry of the extended row -/
def extendLaw (K : Var → Nat) (v : Var) (c : Factor) (d : Law) : Law :=
  d.flatMap (fun o => (List.range (K v)).map (fun x => (upd o.1 v x, o.2 * c.den (upd o.1 v x))))

/-- ancestral sampling along the list `L` of (variable, CPD) pairs -/
def forwardLaw (K : Var → Nat) : List (Var × Factor) → Law → Law
  | [], d => d
  | p :: rest, d => forwardLaw K rest (extendLaw K p.1 p.2 d)

/-- `L` is in topological order: the CPD of a variable mentions no variable drawn later, and no
    variable is drawn twice -/
def Topo : List (Var × Factor) → Prop
  | [] => True
  | p :: rest => (∀ q ∈ rest, q.1 ∉ p.2.scope ∧ q.1 ≠ p.1) ∧ Topo rest

theorem mem_extendLaw {K : Var → Nat} {v : Var} {c : Factor} {d : Law} {o : Asg × Rat} :
    o ∈ extendLaw K v c d ↔ ∃ o0 ∈ d, ∃ x, x < K v ∧ o = (upd o0.1 v x, o0.2 * c.den (upd o0.1 v x)) := by
  unfold extendLaw
  simp only [List.mem_flatMap, List.mem_map, List.mem_range, eq_comm]

/-- drawing the remaining variables does not change the entry of a CPD that mentions none of them -/
theorem den_eq_of_agree_off (c : Factor) (rest : List (Var × Factor)) (hc : ∀ q ∈ rest, q.1 ∉ c.scope)
    (a b : Asg) (h : ∀ w, w ∉ rest.map Prod.fst → a w = b w) : c.den a = c.den b :=
  den_dependsOn c a b (fun w hw => h w (fun hmem => by
    obtain ⟨q, hq, rfl⟩ := List.mem_map.mp hmem
    exact hc q hq hw))

theorem Topo.head_notin {p : Var × Factor} {rest : List (Var × Factor)} (h : Topo (p :: rest)) :
    p.1 ∉ rest.map Prod.fst := fun hmem => by
  obtain ⟨q, hq, e⟩ := List.mem_map.mp hmem
  exact (h.1 q hq).2 e

/-- **the law of forward sampling**: the outcomes are exactly the rows that extend an initial outcome
    by one of its states for every drawn variable, with the initial mass times the product of ALL CPD
    entries at the final row -/
theorem mem_forwardLaw (K : Var → Nat) (L : List (Var × Factor)) (d : Law) (hL : Topo L)
    (o : Asg × Rat) : o ∈ forwardLaw K L d ↔ ∃ o0 ∈ d,
      (∀ w, w ∉ L.map Prod.fst → o.1 w = o0.1 w) ∧ (∀ w ∈ L.map Prod.fst, o.1 w < K w) ∧
      o.2 = o0.2 * jointDen (L.map Prod.snd) o.1 := by
  induction L generalizing d with
  | nil =>
    constructor
    · exact fun ho => ⟨o, ho, fun _ _ => rfl, fun _ h => (nomatch h), (mul_one _).symm⟩
    · rintro ⟨o0, h0, hag, _, hm⟩
      have : o = o0 := Prod.ext (funext fun w => hag w List.not_mem_nil) (hm.trans (mul_one _))
      exact this ▸ h0
  | cons p rest ih =>
    have hp := Topo.head_notin hL
    refine (ih (extendLaw K p.1 p.2 d) hL.2).trans ?_
    simp only [mem_extendLaw, List.map_cons, List.mem_cons, not_or, jointDen_cons]
    constructor
    · rintro ⟨_, ⟨o0, h0, x, hx, rfl⟩, hag, hK, hm⟩
      have hpx : o.1 p.1 = x := (hag _ hp).trans (upd_same _ _ _)
      refine ⟨o0, h0, fun w hw => ?_, ?_, ?_⟩
      · exact (hag w hw.2).trans (upd_of_ne _ _ hw.1)
      · rintro w (rfl | hw)
        · exact hpx ▸ hx
        · exact hK w hw
      · rw [hm, den_eq_of_agree_off p.2 rest (fun q hq => (hL.1 q hq).1) _ _ hag, mul_assoc]
    · rintro ⟨o0, h0, hag, hK, hm⟩
      have hag' : ∀ w, w ∉ rest.map Prod.fst → o.1 w = upd o0.1 p.1 (o.1 p.1) w := by
        intro w hw
        by_cases e : w = p.1
        · rw [e, upd_same]
        · rw [upd_of_ne _ _ e, hag w ⟨e, hw⟩]
      refine ⟨_, ⟨o0, h0, o.1 p.1, hK _ (Or.inl rfl), rfl⟩, hag', fun w hw => hK w (Or.inr hw), ?_⟩
      rw [hm, ← den_eq_of_agree_off p.2 rest (fun q hq => (hL.1 q hq).1) _ _ hag', mul_assoc]

/-- outcomes are pairwise different on some variable that will not be drawn any more -/
def SepOff (C : List Var) (d : Law) : Prop :=
  d.Pairwise (fun o1 o2 => ∃ w, w ∉ C ∧ o1.1 w ≠ o2.1 w)

theorem extendLaw_sep (K : Var → Nat) (v : Var) (c : Factor) (C : List Var) (hv : v ∉ C) (d : Law)
    (hd : SepOff (v :: C) d) : SepOff C (extendLaw K v c d) := by
  unfold SepOff extendLaw
  rw [List.pairwise_flatMap]
  constructor
  · intro o _
    rw [List.pairwise_map]
    apply List.Pairwise.imp _ (List.nodup_range (n := K v))
    intro x y hxy
    exact ⟨v, hv, by simp [upd, hxy]⟩
  · apply List.Pairwise.imp _ hd
    rintro o1 o2 ⟨w, hw, hne⟩ a ha b hb
    obtain ⟨x, _, rfl⟩ := List.mem_map.mp ha
    obtain ⟨y, _, rfl⟩ := List.mem_map.mp hb
    have hwv : w ≠ v := fun e => hw (by simp [e])
    exact ⟨w, fun h => hw (List.mem_cons_of_mem _ h), by simp [upd, hwv, hne]⟩

theorem forwardLaw_sep (K : Var → Nat) (L : List (Var × Factor)) (d : Law) (hL : Topo L)
    (h : SepOff (L.map Prod.fst) d) : SepOff [] (forwardLaw K L d) := by
  induction L generalizing d with
  | nil => exact h
  | cons p rest ih => exact ih _ hL.2 (extendLaw_sep K p.1 p.2 _ (Topo.head_notin hL) d h)

theorem forwardLaw_nodup (K : Var → Nat) (L : List (Var × Factor)) (a0 : Asg) (hL : Topo L) :
    ((forwardLaw K L [(a0, 1)]).map Prod.fst).Nodup :=
  List.pairwise_map.mpr ((forwardLaw_sep K L [(a0, 1)] hL (List.pairwise_singleton _ _)).imp
    (fun ⟨w, _, hne⟩ e => hne (congrFun e w)))

/-! Likelihood weighting: evidence variables are fixed, their CPD entries go into the weight.  Unlike forward sampling (`mem_extendLaw`, `mem_forwardLaw`), likelihood weighting is characterised in one
direction only: what every outcome looks like (`of_mem_lwStep`, `lwLaw_spec`), not which rows occur. -/

/-- outcomes of likelihood weighting: (row, proposal mass, weight) -/
abbrev WLaw := List (Asg × Rat × Rat)

def lwStep (K : Var → Nat) (ev : Var → Option Nat) (v : Var) (c : Factor) (d : WLaw) : WLaw :=
  match ev v with
  | some e => d.map (fun o => (upd o.1 v e, o.2.1, o.2.2 * c.den (upd o.1 v e)))
  | none => d.flatMap (fun o => (List.range (K v)).map
      (fun x => (upd o.1 v x, o.2.1 * c.den (upd o.1 v x), o.2.2)))

def lwLaw (K : Var → Nat) (ev : Var → Option Nat) : List (Var × Factor) → WLaw → WLaw
  | [], d => d
  | p :: rest, d => lwLaw K ev rest (lwStep K ev p.1 p.2 d)

theorem of_mem_lwStep {K : Var → Nat} {ev : Var → Option Nat} {v : Var} {c : Factor} {d : WLaw}
    {o : Asg × Rat × Rat} (h : o ∈ lwStep K ev v c d) : ∃ o0 ∈ d, ∃ x, o.1 = upd o0.1 v x ∧
      (∀ e, ev v = some e → x = e) ∧
      o.2.2 = o0.2.2 * (if (ev v).isSome then c.den o.1 else 1) ∧
      o.2.1 = o0.2.1 * (if !(ev v).isSome then c.den o.1 else 1) := by
  unfold lwStep at h
  cases hE : ev v with
  | some e =>
    rw [hE] at h
    obtain ⟨o0, h0, rfl⟩ := List.mem_map.mp h
    exact ⟨o0, h0, e, rfl, fun _ h => Option.some.inj h, by simp, by simp⟩
  | none =>
    rw [hE] at h
    obtain ⟨o0, h0, hx⟩ := List.mem_flatMap.mp h
    obtain ⟨x, _, rfl⟩ := List.mem_map.mp hx
    exact ⟨o0, h0, x, rfl, fun _ h => (nomatch h), by simp, by simp⟩

/-- **likelihood weighting**: every outcome carries the evidence, its weight is the product of the
    evidence variables' CPD entries at the sampled row, its proposal mass the product of the other
    CPD entries, and so  mass × weight = joint(row) -/
theorem lwLaw_spec (K : Var → Nat) (ev : Var → Option Nat) (L : List (Var × Factor)) (d : WLaw)
    (hL : Topo L) (o : Asg × Rat × Rat) (ho : o ∈ lwLaw K ev L d) : ∃ o0 ∈ d,
      o.2.2 = o0.2.2 * jointDen ((L.filter (fun p => (ev p.1).isSome)).map Prod.snd) o.1 ∧
      o.2.1 = o0.2.1 * jointDen ((L.filter (fun p => !(ev p.1).isSome)).map Prod.snd) o.1 ∧
      (∀ w, w ∉ L.map Prod.fst → o.1 w = o0.1 w) ∧
      (∀ p ∈ L, ∀ e, ev p.1 = some e → o.1 p.1 = e) := by
  induction L generalizing d with
  | nil => exact ⟨o, ho, (mul_one _).symm, (mul_one _).symm, fun _ _ => rfl, fun _ h => (nomatch h)⟩
  | cons p rest ih =>
    obtain ⟨o1, h1, hw, hm, hagree, hev⟩ := ih _ hL.2 ho
    obtain ⟨o0, h0, x, e1, hx, hw1, hm1⟩ := of_mem_lwStep h1
    have hden : p.2.den o1.1 = p.2.den o.1 :=
      (den_eq_of_agree_off p.2 rest (fun q hq => (hL.1 q hq).1) _ _ hagree).symm
    refine ⟨o0, h0, ?_, ?_, fun w hnot => ?_, ?_⟩
    · rw [hw, hw1, hden, jointDen_filter_cons, mul_assoc]
    · rw [hm, hm1, hden, jointDen_filter_cons, mul_assoc]
    · rw [List.map_cons, List.mem_cons, not_or] at hnot
      rw [hagree w hnot.2, e1, upd_of_ne _ _ hnot.1]
    · intro q hq e' he'
      rcases List.mem_cons.mp hq with rfl | hq
      · rw [hagree _ (Topo.head_notin hL), e1, upd_same, hx e' he']
      · exact hev q hq e' he'

end PgmVerif
