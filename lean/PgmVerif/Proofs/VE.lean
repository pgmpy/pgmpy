/-
  Proofs/VE.lean — variable elimination (the algorithm model of Model/VE.lean) over ANY order leaves factors
  whose product is the fold (sum, maximum) of the product of all factors over the eliminated variables.
  Also here: the lemmas about the product `jointDen` of a factor list, the n-ary table product, evidence, and
  leaves that sum out to one.  The comparison with the brute-force joint table is in Proofs/Spec.lean.
-/
import PgmVerif.Model.VE
import PgmVerif.Proofs.SumProd
namespace PgmVerif
open Factor

def AllWF (K : Var → Nat) (fs : List Factor) : Prop := ∀ f ∈ fs, f.WF K
def Mentioned (fs : List Factor) (v : Var) : Prop := ∃ f ∈ fs, v ∈ f.scope
def NonnegF (K : Var → Nat) (fs : List Factor) : Prop := ∀ f ∈ fs, ∀ a, Bounded K a → 0 ≤ f.den a

theorem mentioned_cons (f : Factor) (fs : List Factor) (v : Var) :
    Mentioned (f :: fs) v ↔ v ∈ f.scope ∨ Mentioned fs v :=
  List.exists_mem_cons_iff ..

theorem jointDen_nil (a : Asg) : jointDen [] a = 1 := rfl
theorem jointDen_cons (f : Factor) (fs : List Factor) (a : Asg) :
    jointDen (f :: fs) a = f.den a * jointDen fs a := List.prod_cons
theorem jointDen_append (fs gs : List Factor) (a : Asg) :
    jointDen (fs ++ gs) a = jointDen fs a * jointDen gs a := by
  unfold jointDen prodR; rw [List.map_append, List.prod_append]

theorem jointDen_perm {fs gs : List Factor} (p : fs.Perm gs) (a : Asg) : jointDen fs a = jointDen gs a :=
  (p.map _).prod_eq

theorem jointDen_map_filter {α : Type} (g : α → Factor) (P : α → Bool) (l : List α) (a : Asg) :
    jointDen (l.map g) a
      = jointDen ((l.filter P).map g) a * jointDen ((l.filter (fun x => !P x)).map g) a := by
  rw [← jointDen_append, ← List.map_append]
  exact jointDen_perm ((List.filter_append_perm P l).map g).symm a

theorem jointDen_filter (p : Factor → Bool) (fs : List Factor) (a : Asg) :
    jointDen fs a = jointDen (fs.filter p) a * jointDen (fs.filter (fun f => !p f)) a := by
  rw [← jointDen_append]
  exact jointDen_perm (List.filter_append_perm p fs).symm a

theorem jointDen_filter_cons (P : Var × Factor → Bool) (p : Var × Factor) (L : List (Var × Factor))
    (a : Asg) : jointDen (((p :: L).filter P).map Prod.snd) a
      = (if P p then p.2.den a else 1) * jointDen ((L.filter P).map Prod.snd) a := by
  rw [List.filter_cons]
  split
  · rw [List.map_cons, jointDen_cons]
  · rw [one_mul]

theorem jointDen_map (t : Factor → Factor) {a b : Asg} (fs : List Factor)
    (h : ∀ f ∈ fs, (t f).den a = f.den b) : jointDen (fs.map t) a = jointDen fs b := by
  unfold jointDen
  rw [List.map_map]
  exact congrArg prodR (List.map_congr_left h)

theorem jointDen_congr {a b : Asg} (fs : List Factor) (h : ∀ f ∈ fs, f.den a = f.den b) :
    jointDen fs a = jointDen fs b :=
  congrArg prodR (List.map_congr_left h)

theorem jointDen_closed {P : Rat → Prop} {op : List Rat → Rat} (L : FoldLaw P op) (a : Asg)
    (fs : List Factor) (h : ∀ f ∈ fs, P (f.den a)) : P (jointDen fs a) := by
  induction fs with
  | nil => exact L.one
  | cons f fs ih =>
    rw [jointDen_cons]
    exact L.mul (h f List.mem_cons_self) (ih fun g hg => h g (List.mem_cons_of_mem _ hg))

theorem den_upd_notin (f : Factor) (v : Var) (hv : v ∉ f.scope) (a : Asg) (x : Nat) :
    f.den (upd a v x) = f.den a :=
  den_dependsOn f _ _ fun _ hw => upd_of_ne a x fun e => hv (e ▸ hw)

theorem jointDen_upd_notin (v : Var) (fs : List Factor) (h : ∀ f ∈ fs, v ∉ f.scope) (a : Asg) (x : Nat) :
    jointDen fs (upd a v x) = jointDen fs a :=
  jointDen_congr fs fun f hf => den_upd_notin f v (h f hf) a x

/-- `hP` is there for the maximum only (`P = (0 ≤ ·)`); for the sum it is `trivial` -/
theorem foldVar_jointDen_split {P : Rat → Prop} {op : List Rat → Rat} (L : FoldLaw P op) (K : Var → Nat)
    (fs : List Factor) (v : Var) (a : Asg)
    (hP : P (jointDen (fs.filter (fun f => !f.scope.contains v)) a)) :
    foldVar op K v (jointDen fs) a = jointDen (fs.filter (fun f => !f.scope.contains v)) a
      * foldVar op K v (jointDen (fs.filter (fun f => f.scope.contains v))) a := by
  have e : jointDen fs = fun b => jointDen (fs.filter (fun f => !f.scope.contains v)) b
      * jointDen (fs.filter (fun f => f.scope.contains v)) b := funext fun b =>
    (jointDen_filter (fun f => f.scope.contains v) fs b).trans (mul_comm _ _)
  rw [e]
  exact foldVar_mul_const L K v _ _ a
    (jointDen_upd_notin v _ (fun f hf => not_contains_iff.mp (List.mem_filter.mp hf).2) a) hP

theorem sumVar_jointDen_split (K : Var → Nat) (fs : List Factor) (v : Var) (a : Asg) :
    sumVar K v (jointDen fs) a = jointDen (fs.filter (fun f => !f.scope.contains v)) a
      * sumVar K v (jointDen (fs.filter (fun f => f.scope.contains v))) a :=
  foldVar_jointDen_split sumLaw K fs v a trivial

theorem foldl_product (K : Var → Nat) (fs : List Factor) (acc : Factor) (hacc : acc.WF K) (hfs : AllWF K fs) :
    (fs.foldl product acc).WF K ∧
    (∀ a, Bounded K a → (fs.foldl product acc).den a = acc.den a * jointDen fs a) ∧
    (∀ v, v ∈ (fs.foldl product acc).scope ↔ v ∈ acc.scope ∨ Mentioned fs v) := by
  induction fs generalizing acc with
  | nil => exact ⟨hacc, fun a _ => (mul_one _).symm, fun v => by simp [Mentioned]⟩
  | cons f fs ih =>
    have hf : f.WF K := hfs f List.mem_cons_self
    obtain ⟨h1, h2, h3⟩ := ih (product acc f) (wf_product K acc f hacc hf)
      fun g hg => hfs g (List.mem_cons_of_mem _ hg)
    refine ⟨h1, fun a ha => ?_, fun v => ?_⟩
    · rw [List.foldl_cons, h2 a ha, den_product K acc f hacc hf a ha, jointDen_cons, mul_assoc]
    · rw [List.foldl_cons, h3 v, mem_scope_product K acc f hacc hf, mentioned_cons, or_assoc]

theorem productAll_spec (K : Var → Nat) (fs : List Factor) (hfs : AllWF K fs) :
    (productAll fs).WF K ∧
    (∀ a, Bounded K a → (productAll fs).den a = jointDen fs a) ∧
    (∀ v, v ∈ (productAll fs).scope ↔ Mentioned fs v) := by
  cases fs with
  | nil =>
    exact ⟨wf_tabulate K [] _ List.nodup_nil, fun a _ => den_tabulate [] [] _ a trivial,
      fun v => by simp [productAll, tabulate, Mentioned]⟩
  | cons f fs =>
    obtain ⟨h1, h2, h3⟩ := foldl_product K fs f (hfs f List.mem_cons_self)
      fun g hg => hfs g (List.mem_cons_of_mem _ hg)
    exact ⟨h1, fun a ha => (h2 a ha).trans (jointDen_cons f fs a).symm,
      fun v => (h3 v).trans (mentioned_cons f fs v).symm⟩

/-- one elimination step, for the sum and for the maximum: the factors that mention `v` are replaced by
    one factor whose value is the fold over `v` of their product -/
theorem elimVarWith_spec {P : Rat → Prop} {op : List Rat → Rat} (L : FoldLaw P op) (K : Var → Nat)
    (fs : List Factor) (hfs : AllWF K fs) (hP : ∀ f ∈ fs, ∀ a, Bounded K a → P (f.den a)) (v : Var)
    (hm : Mentioned fs v) :
    AllWF K (elimVarWith (elimWith op) fs v) ∧
    (∀ f ∈ elimVarWith (elimWith op) fs v, ∀ a, Bounded K a → P (f.den a)) ∧
    EqB K (jointDen (elimVarWith (elimWith op) fs v)) (foldVar op K v (jointDen fs)) ∧
    (∀ w, w ≠ v → Mentioned fs w → Mentioned (elimVarWith (elimWith op) fs v) w) := by
  obtain ⟨f0, hf0, hv0⟩ := hm
  -- `U` are the factors that mention `v`, `R` the others; `hsplit` comes first so that `generalize` abstracts its filters too
  have hsplit := fun a => foldVar_jointDen_split L K fs v a
  generalize hU : fs.filter (fun f => f.scope.contains v) = U at hsplit
  generalize hR : fs.filter (fun f => !f.scope.contains v) = R at hsplit
  have memU : ∀ f, f ∈ U ↔ f ∈ fs ∧ v ∈ f.scope := fun f =>
    hU ▸ List.mem_filter.trans (and_congr_right fun _ => List.contains_iff_mem)
  have memR : ∀ f, f ∈ R ↔ f ∈ fs ∧ v ∉ f.scope := fun f =>
    hR ▸ List.mem_filter.trans (and_congr_right fun _ => not_contains_iff)
  have hf0U : f0 ∈ U := (memU f0).mpr ⟨hf0, hv0⟩
  obtain ⟨hPwf, hPden, hPscope⟩ := productAll_spec K U fun f hf => hfs f ((memU f).mp hf).1
  have heq : elimVarWith (elimWith op) fs v = R ++ [elimWith op (productAll U) [v]] := by
    unfold elimVarWith
    simp only [hU, hR]
    rw [if_neg (mt List.isEmpty_iff.mp (List.ne_nil_of_mem hf0U))]
  have hN := elimWith_isTable K op _ hPwf [v]
  have hNden : EqB K (elimWith op (productAll U) [v]).den (foldVar op K v (jointDen U)) := fun a ha =>
    (den_elimWith_one K op _ hPwf v ((hPscope v).mpr ⟨f0, hf0U, hv0⟩) a ha).trans
      (foldVar_congr v hPden a ha)
  rw [heq]
  refine ⟨?_, ?_, ?_, ?_⟩
  · intro g hg
    rcases List.mem_append.mp hg with h | h
    · exact hfs g ((memR g).mp h).1
    · rw [List.mem_singleton.mp h]; exact hN.wf
  · intro g hg a ha
    rcases List.mem_append.mp hg with h | h
    · exact hP g ((memR g).mp h).1 a ha
    · rw [List.mem_singleton.mp h, hNden a ha]
      exact L.fold fun y hy => by
        obtain ⟨x, hx, rfl⟩ := List.mem_map.mp hy
        exact jointDen_closed L _ U fun f hf =>
          hP f ((memU f).mp hf).1 _ (upd_bounded ha v x (List.mem_range.mp hx))
  · intro a ha
    rw [jointDen_append, jointDen_cons, jointDen_nil, mul_one, hNden a ha,
      hsplit a (jointDen_closed L a R fun f hf => hP f ((memR f).mp hf).1 a ha)]
  · intro w hw ⟨g, hg, hwg⟩
    by_cases hgv : v ∈ g.scope
    · refine ⟨_, List.mem_append_right _ (List.mem_singleton.mpr rfl), ?_⟩
      rw [hN.scope]
      exact mem_keepScope.mpr ⟨(hPscope w).mpr ⟨g, (memU g).mpr ⟨hg, hgv⟩, hwg⟩,
        fun h => hw (List.mem_singleton.mp h)⟩
    · exact ⟨g, List.mem_append_left _ ((memR g).mpr ⟨hg, hgv⟩), hwg⟩

theorem veFold_spec {P : Rat → Prop} {op : List Rat → Rat} (L : FoldLaw P op) (K : Var → Nat)
    (order : List Var) (fs : List Factor) (hfs : AllWF K fs)
    (hP : ∀ f ∈ fs, ∀ a, Bounded K a → P (f.den a)) (hn : order.Nodup)
    (hm : ∀ v ∈ order, Mentioned fs v) :
    AllWF K (order.foldl (elimVarWith (elimWith op)) fs) ∧
    EqB K (jointDen (order.foldl (elimVarWith (elimWith op)) fs)) (foldOut op K order (jointDen fs)) := by
  induction order generalizing fs with
  | nil => exact ⟨hfs, fun _ _ => rfl⟩
  | cons v vs ih =>
    obtain ⟨h1, h1P, h2, h3⟩ := elimVarWith_spec L K fs hfs hP v (hm v List.mem_cons_self)
    have hn' := List.nodup_cons.mp hn
    obtain ⟨i1, i2⟩ := ih _ h1 h1P hn'.2 fun w hw =>
      h3 w (fun e => hn'.1 (e ▸ hw)) (hm w (List.mem_cons_of_mem _ hw))
    exact ⟨i1, fun a ha => (i2 a ha).trans (foldOut_congr vs h2 a ha)⟩

/-- `veRun fs order` unfolds to the `foldl` of `veFold_spec` at `op = sumR` -/
theorem veRun_spec (K : Var → Nat) (order : List Var) (fs : List Factor) (hfs : AllWF K fs)
    (hn : order.Nodup) (hm : ∀ v ∈ order, Mentioned fs v) :
    AllWF K (veRun fs order) ∧ EqB K (jointDen (veRun fs order)) (sumOut K order (jointDen fs)) := by
  rw [sumOut_eq_foldOut]
  exact veFold_spec sumLaw K order fs hfs (fun _ _ _ _ => trivial) hn hm

/-- **max-product elimination, any order**; `veMaxRun fs order` unfolds to the `foldl` of `veFold_spec` at
    `op = maxR` -/
theorem veMaxRun_spec (K : Var → Nat) (order : List Var) (fs : List Factor) (hfs : AllWF K fs)
    (hnn : NonnegF K fs) (hn : order.Nodup) (hm : ∀ v ∈ order, Mentioned fs v) :
    AllWF K (veMaxRun fs order) ∧ EqB K (jointDen (veMaxRun fs order)) (maxOut K order (jointDen fs)) := by
  rw [maxOut_eq_foldOut]
  exact veFold_spec maxLaw K order fs hfs hnn hn hm

theorem reduce_map_spec (K : Var → Nat) (ev : List (Var × Nat)) (fs : List Factor) (hfs : AllWF K fs) :
    AllWF K (fs.map (fun f => f.reduce ev)) ∧
    EqB K (jointDen (fs.map (fun f => f.reduce ev)))
      (fun a => jointDen fs (overrideL a (ev.map (·.1)) (ev.map (·.2)))) := by
  refine ⟨fun g hg => ?_, fun a ha => jointDen_map _ fs fun f hf => den_reduce K f (hfs f hf) ev a ha⟩
  obtain ⟨f, hf, rfl⟩ := List.mem_map.mp hg
  exact wf_reduce K f (hfs f hf) ev

theorem mentioned_reduce (K : Var → Nat) (ev : List (Var × Nat)) (fs : List Factor) (hfs : AllWF K fs)
    (v : Var) (hv : v ∉ ev.map (·.1)) (hm : Mentioned fs v) :
    Mentioned (fs.map (fun f => f.reduce ev)) v := by
  obtain ⟨f, hf, hvf⟩ := hm
  refine ⟨f.reduce ev, List.mem_map.mpr ⟨f, hf, rfl⟩, ?_⟩
  rw [scope_reduce K f (hfs f hf)]
  exact mem_keepScope.mpr ⟨hvf, hv⟩

theorem sumVar_jointDen_cons (K : Var → Nat) (c : Factor) (fs : List Factor) (u : Var)
    (hu : ∀ f ∈ fs, u ∉ f.scope) (a : Asg) :
    sumVar K u (jointDen (c :: fs)) a = jointDen fs a * sumVar K u c.den a := by
  have e : jointDen (c :: fs) = fun b => jointDen fs b * c.den b :=
    funext fun b => by rw [jointDen_cons, mul_comm]
  rw [e, sumVar_mul_const K u _ _ a (jointDen_upd_notin u fs hu a)]

/-- a normalised CPD of a variable that occurs nowhere else sums out to 1 -/
theorem barren_leaf (K : Var → Nat) (c : Factor) (fs : List Factor) (u : Var)
    (hnorm : ∀ a, Bounded K a → sumVar K u c.den a = 1) (hu : ∀ f ∈ fs, u ∉ f.scope)
    (a : Asg) (ha : Bounded K a) :
    sumVar K u (jointDen (c :: fs)) a = jointDen fs a := by
  rw [sumVar_jointDen_cons K c fs u hu a, hnorm a ha, mul_one]

/-- eliminating, one after another, variables whose (normalised) CPD is the only remaining
    factor that mentions them removes those CPDs from the product -/
theorem leaves_sum_out (K : Var → Nat) (fs : List Factor) :
    ∀ (leaves : List (Var × Factor)),
      (∀ p ∈ leaves, ∀ a, Bounded K a → sumVar K p.1 p.2.den a = 1) →
      (∀ p ∈ leaves, ∀ f ∈ fs, p.1 ∉ f.scope) →
      (leaves.Pairwise (fun p q => p.1 ∉ q.2.scope)) →
      ∀ a, Bounded K a →
        sumOut K (leaves.map (·.1)) (jointDen (leaves.map (·.2) ++ fs)) a = jointDen fs a := by
  intro leaves
  induction leaves with
  | nil => intro _ _ _ _ _; rfl
  | cons p ps ih =>
    intro hnorm hfresh hpair a ha
    have hp := List.pairwise_cons.mp hpair
    simp only [List.map_cons, List.cons_append, sumOut]
    rw [← ih (fun q hq => hnorm q (List.mem_cons_of_mem _ hq))
      (fun q hq => hfresh q (List.mem_cons_of_mem _ hq)) hp.2 a ha]
    refine sumOut_congr _ (fun b hb => ?_) a ha
    refine barren_leaf K p.2 _ p.1 (hnorm p List.mem_cons_self) (fun f hf => ?_) b hb
    rcases List.mem_append.mp hf with h | h
    · obtain ⟨q, hq, rfl⟩ := List.mem_map.mp h
      exact hp.1 q hq
    · exact hfresh p List.mem_cons_self f h

end PgmVerif
