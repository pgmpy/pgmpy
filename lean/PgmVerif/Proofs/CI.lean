/-
  Proofs/CI.lean — conditional independence in a finite joint distribution, at the level of
  functions `Asg → Rat`, and the semi-graphoid rules (symmetry, decomposition, weak union,
  contraction) as theorems about every non-negative table.  Used by C18.
-/
import PgmVerif.Proofs.SumProd
import Mathlib.Algebra.Order.BigOperators.Group.Finset
import Mathlib.Tactic.LinearCombination
namespace PgmVerif
open Factor

def NonnegB (K : Var → Nat) (g : Asg → Rat) : Prop := ∀ a, Bounded K a → 0 ≤ g a

theorem sumVar_ge_self {K : Var → Nat} {g : Asg → Rat} (hg : NonnegB K g) (v : Var) (a : Asg) (ha : Bounded K a) :
    g a ≤ sumVar K v g a := by
  rw [sumVar_eq]
  have hmem : a v ∈ Finset.range (K v) := Finset.mem_range.mpr (ha v)
  have := Finset.single_le_sum (f := fun x => g (upd a v x)) (s := Finset.range (K v))
    (fun x hx => hg _ (upd_bounded ha v x (Finset.mem_range.mp hx))) hmem
  simpa [upd_self] using this

theorem sumVar_nonneg {K : Var → Nat} {g : Asg → Rat} (hg : NonnegB K g) (v : Var) : NonnegB K (sumVar K v g) :=
  fun a ha => (hg a ha).trans (sumVar_ge_self hg v a ha)

theorem sumOut_ge_self {K : Var → Nat} (vs : List Var) {g : Asg → Rat} (hg : NonnegB K g) (a : Asg)
    (ha : Bounded K a) : g a ≤ sumOut K vs g a := by
  induction vs generalizing g with
  | nil => exact le_rfl
  | cons v vs ih => exact (sumVar_ge_self hg v a ha).trans (ih (sumVar_nonneg hg v))

theorem sumOut_nonneg {K : Var → Nat} (vs : List Var) {g : Asg → Rat} (hg : NonnegB K g) : NonnegB K (sumOut K vs g) :=
  fun a ha => (hg a ha).trans (sumOut_ge_self vs hg a ha)

/-- the marginal over the variable SET `S`: everything of `V` outside `S` is summed out -/
def marg (K : Var → Nat) (V : List Var) (P : Asg → Rat) (S : List Var) : Asg → Rat :=
  sumOut K (V.filter (fun v => !S.contains v)) P

section
variable {K : Var → Nat} {V : List Var} {P : Asg → Rat} {S T U : List Var} {a : Asg}

theorem marg_congr (h : ∀ v, v ∈ S ↔ v ∈ T) : marg K V P S = marg K V P T := by
  unfold marg
  simp only [List.contains_eq_mem, h]

def diffVars (V S T : List Var) : List Var := V.filter (fun v => T.contains v && !S.contains v)

theorem mem_diffVars {v : Var} : v ∈ diffVars V S T ↔ v ∈ V ∧ v ∈ T ∧ v ∉ S := by
  simp [diffVars]

/-- P(s) = Σ_d P(s, d), the sum running over the variables of `V` that `T` has and `S` has not -/
theorem marg_sub (hST : S ⊆ T) : marg K V P S = sumOut K (diffVars V S T) (marg K V P T) := by
  unfold marg diffVars
  rw [← sumOut_append]
  apply sumOut_perm
  -- split `V.filter (∉ S)` by membership in `T`; outside `T` the condition `∉ S` is redundant
  have h := List.filter_append_perm (fun v => !T.contains v) (V.filter (fun v => !S.contains v))
  simp only [List.filter_filter, Bool.not_not] at h
  rw [List.filter_congr (q := fun v => !T.contains v) (fun v _ => by
    by_cases hS : v ∈ S
    · simp [hS, hST hS]
    · simp [hS])] at h
  exact h.symm

/-- `T` is arbitrary: of a member of `diffVars V S T` only `∈ V` and `∉ S` are used. The statement has the list over
    which `marg_sub` sums, so that `sumOut_mul_const` applies to it as it stands. -/
theorem marg_indepOf (hU : U ⊆ S) : IndepOf (marg K V P U) (diffVars V S T) := by
  intro a v x hv
  obtain ⟨hV, _, hS⟩ := mem_diffVars.mp hv
  exact indepOf_sumOut K _ P a v x (List.mem_filter.mpr ⟨hV, by simpa using fun h => hS (hU h)⟩)

theorem marg_nonneg (hP : NonnegB K P) (S : List Var) : NonnegB K (marg K V P S) := sumOut_nonneg _ hP

theorem marg_le (hP : NonnegB K P) (hST : S ⊆ T) (ha : Bounded K a) : marg K V P T a ≤ marg K V P S a := by
  rw [marg_sub hST]
  exact sumOut_ge_self _ (marg_nonneg hP T) a ha

/-- an equation between multiples of two marginals may be checked after multiplying by a coarser marginal:
    where that vanishes, so do they -/
theorem marg_mul_cancel (hP : NonnegB K P) (hT : S ⊆ T) (hU : S ⊆ U) (ha : Bounded K a) {p q : Rat}
    (h : marg K V P T a * p * marg K V P S a = marg K V P U a * q * marg K V P S a) :
    marg K V P T a * p = marg K V P U a * q := by
  by_cases hz : marg K V P S a = 0
  · have z : ∀ {T}, S ⊆ T → marg K V P T a = 0 := fun hT =>
      le_antisymm (hz ▸ marg_le hP hT ha) (marg_nonneg hP _ a ha)
    rw [z hT, z hU, zero_mul, zero_mul]
  · exact mul_right_cancel₀ hz h

theorem marg_const_mul (c : Rat) : marg K V (fun b => c * P b) S a = c * marg K V P S a := by
  unfold marg
  rw [sumOut_const_mul]

end

/-- X ⟂ Y | Z in `P`:  P(x,y,z)·P(z) = P(x,z)·P(y,z)  for every joint state -/
def CI (K : Var → Nat) (V : List Var) (P : Asg → Rat) (X Y Z : List Var) : Prop :=
  ∀ a, Bounded K a →
    marg K V P (X ++ Y ++ Z) a * marg K V P Z a = marg K V P (X ++ Z) a * marg K V P (Y ++ Z) a

theorem CI_congr (K : Var → Nat) (V : List Var) (P : Asg → Rat) {X Y Z X' Y' Z' : List Var}
    (hx : ∀ v, v ∈ X ↔ v ∈ X') (hy : ∀ v, v ∈ Y ↔ v ∈ Y') (hz : ∀ v, v ∈ Z ↔ v ∈ Z')
    (h : CI K V P X Y Z) : CI K V P X' Y' Z' := by
  intro a ha
  rw [← marg_congr (S := X ++ Y ++ Z) (T := X' ++ Y' ++ Z') (fun v => by simp only [List.mem_append, hx, hy, hz]),
    ← marg_congr hz, ← marg_congr (S := X ++ Z) (T := X' ++ Z') (fun v => by simp only [List.mem_append, hx, hz]),
    ← marg_congr (S := Y ++ Z) (T := Y' ++ Z') (fun v => by simp only [List.mem_append, hy, hz])]
  exact h a ha

theorem CI_symm (K : Var → Nat) (V : List Var) (P : Asg → Rat) (X Y Z : List Var) (h : CI K V P X Y Z) :
    CI K V P Y X Z := by
  intro a ha
  -- P(y,x,z) is P(x,y,z); then `h`, and the two factors on the right change places
  rw [marg_congr (T := X ++ Y ++ Z) (fun v => by simp only [List.mem_append]; ac_nf), h a ha, mul_comm]

/-- decomposition: X ⟂ Y | Z and Y' ⊆ Y give X ⟂ Y' | Z (X and Y disjoint) -/
theorem CI_decomposition (K : Var → Nat) (V : List Var) (P : Asg → Rat) (X Y Y' Z : List Var)
    (hsub : ∀ v, v ∈ Y' → v ∈ Y) (hdisj : ∀ v, v ∈ X → v ∉ Y) (h : CI K V P X Y Z) : CI K V P X Y' Z := by
  intro a ha
  -- both sides of `h` are summed over the variables `D` of `Y` outside `Y'` and `Z`; as `X` does not meet `Y`,
  -- these are also the variables by which `X ++ Y ++ Z` exceeds `X ++ Y' ++ Z`
  have hD : diffVars V (Y' ++ Z) (Y ++ Z) = diffVars V (X ++ Y' ++ Z) (X ++ Y ++ Z) :=
    List.filter_congr fun v _ => by
      by_cases hX : v ∈ X
      · -- a member of `X` is in neither `Y` nor `Y'`: it is in `Z` or in none of the four lists
        have hY : v ∉ Y := hdisj v hX
        have hY' : v ∉ Y' := fun h => hY (hsub v h)
        simp only [List.contains_eq_mem, List.mem_append, hX, hY, hY', false_or, true_or, decide_true, Bool.not_true,
          Bool.and_false, Bool.and_not_self]
      · simp only [List.contains_eq_mem, List.mem_append, hX, false_or]
  have s1 : X ++ Y' ++ Z ⊆ X ++ Y ++ Z := fun v => by
    simp only [List.mem_append]; exact Or.imp_left (Or.imp_right (hsub v))
  have s2 : Y' ++ Z ⊆ Y ++ Z := fun v => by
    simp only [List.mem_append]; exact Or.imp_left (hsub v)
  have i1 : X ++ Z ⊆ X ++ Y' ++ Z := fun v => by
    simp only [List.mem_append]; exact Or.imp_left Or.inl
  rw [marg_sub s1, marg_sub s2, hD, ← sumOut_mul_const_right K _ _ _ (marg_indepOf (List.subset_append_right _ _)) a,
    ← sumOut_mul_const K _ _ _ (marg_indepOf i1) a]
  exact sumOut_congr _ h a ha

/-- from a : d = b : k and b : k = m : z follows a : d = m : z, here before the common factor `k` is cancelled -/
theorem proportion_trans {a b d m k z : Rat} (h1 : a * k = b * d) (h2 : b * z = m * k) :
    a * z * k = d * m * k := by
  linear_combination z * h1 + d * h2

/-- weak union: X ⟂ Y | Z, W ⊆ Y, Y' ∪ W = Y give X ⟂ Y' | Z ∪ W (non-negative P, X and Y disjoint) -/
theorem CI_weak_union (K : Var → Nat) (V : List Var) (P : Asg → Rat) (hP : NonnegB K P) (X Y Y' W Z : List Var)
    (hY : ∀ v, v ∈ Y ↔ v ∈ Y' ∨ v ∈ W) (hdisj : ∀ v, v ∈ X → v ∉ Y) (h : CI K V P X Y Z) :
    CI K V P X Y' (W ++ Z) := by
  intro a ha
  have hW : CI K V P X W Z := CI_decomposition K V P X Y W Z (fun v hv => (hY v).mpr (Or.inr hv)) hdisj h
  -- the goal's P(x,y',(w,z)), P(x,(w,z)) and P(y',(w,z)) are P(x,y,z), P((x,w),z) and P(y,z)
  rw [marg_congr (S := X ++ Y' ++ (W ++ Z)) (T := X ++ Y ++ Z) (fun v => by simp only [List.mem_append, hY]; ac_nf),
    ← List.append_assoc X W Z,
    marg_congr (S := Y' ++ (W ++ Z)) (T := Y ++ Z) (fun v => by simp only [List.mem_append, hY]; ac_nf),
    mul_comm (marg K V P (X ++ W ++ Z) a)]
  -- P(xyz)·P(wz) = P(yz)·P(xwz): multiplied by P(z), both sides are P(xz)·P(yz)·P(wz)
  exact marg_mul_cancel hP (S := Z) (List.subset_append_right _ _) (List.subset_append_right _ _) ha
    (proportion_trans (h a ha) (hW a ha).symm)

/-- contraction: X ⟂ W | Z ∪ Y and X ⟂ Y | Z give X ⟂ Y ∪ W | Z (non-negative P) -/
theorem CI_contraction (K : Var → Nat) (V : List Var) (P : Asg → Rat) (hP : NonnegB K P) (X Y W Z : List Var)
    (h1 : CI K V P X W (Z ++ Y)) (h2 : CI K V P X Y Z) : CI K V P X (W ++ Y) Z := by
  intro a ha
  -- P(xwyz)·P(z) = P(wyz)·P(xz): multiplied by P(yz), both sides are P(xyz)·P(wyz)·P(z)
  rw [mul_comm (marg K V P (X ++ Z) a)]
  refine marg_mul_cancel hP (S := Y ++ Z) (fun v => ?_) (fun v => ?_) ha ?_
  · simp only [List.mem_append]; exact fun h => h.elim (fun h => .inl (.inr (.inr h))) .inr
  · simp only [List.mem_append]; exact Or.imp_left .inr
  -- `h1` conditions on `Z ++ Y` where `h2` and the goal have `Y ++ Z`; the rest is association
  have a1 := CI_congr K V P (Z' := Y ++ Z) (fun _ => Iff.rfl) (fun _ => Iff.rfl)
    (fun v => List.mem_append.trans (or_comm.trans List.mem_append.symm)) h1 a ha
  have a2 := h2 a ha
  simp only [List.append_assoc] at a1 a2 ⊢
  exact proportion_trans a1 a2

end PgmVerif
