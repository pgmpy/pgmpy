/-
  Proofs/ScoreEq.lean — the algebra behind score equivalence across the reversal of a covered edge.
  X and Y have the same other parents Pa (q joint configurations); N j x y are the counts.
  G1 : X | Pa,  Y | Pa ∪ {X}      G2 : Y | Pa,  X | Pa ∪ {Y}
  The product of the two local scores of G1 equals a value that is symmetric in X and Y (`bdeu_chain`,
  `ll_chain`), for every count table — the step Chickering's theorem chains to connect any two
  Markov-equivalent DAGs.  Props/C10 draws the covered-edge identities from it.
-/
import PgmVerif.Model.Score
import PgmVerif.Proofs.Range
import Mathlib.Algebra.BigOperators.Ring.Finset
import Mathlib.Algebra.Order.Field.Rat
namespace PgmVerif

theorem rising_pos (b : Rat) (hb : 0 < b) (n : Nat) : 0 < rising b n := by
  induction n with
  | zero => exact one_pos
  | succ n ih => exact mul_pos ih (add_pos_of_pos_of_nonneg hb (Nat.cast_nonneg n))

/-- count columns of X given Pa: one column per configuration j, one entry per state x -/
def colsX (q rx ry : Nat) (N : Nat → Nat → Nat → Nat) : List (List Nat) :=
  (List.range q).map (fun j => (List.range rx).map (fun x => ((List.range ry).map (fun y => N j x y)).sum))

/-- count columns of Y given Pa ∪ {X} (X the last, fastest parent axis) -/
def colsYgX (q rx ry : Nat) (N : Nat → Nat → Nat → Nat) : List (List Nat) :=
  (List.range q).flatMap (fun j => (List.range rx).map (fun x => (List.range ry).map (fun y => N j x y)))

section
variable (q rx ry : Nat) (N : Nat → Nat → Nat → Nat) (c : List Nat → Rat)

theorem length_colsX : (colsX q rx ry N).length = q := by simp [colsX]

theorem length_colsYgX : (colsYgX q rx ry N).length = q * rx := by
  simp [colsYgX, List.length_flatMap]

theorem prod_colsX : ((colsX q rx ry N).map c).prod
    = ∏ j ∈ Finset.range q, c ((List.range rx).map fun x => ∑ y ∈ Finset.range ry, N j x y) := by
  rw [colsX, List.map_map, prod_map_range]; rfl

theorem prod_colsYgX : ((colsYgX q rx ry N).map c).prod
    = ∏ j ∈ Finset.range q, ∏ x ∈ Finset.range rx, c ((List.range ry).map (N j x)) := by
  rw [colsYgX, List.map_flatMap, List.flatMap_def, List.prod_flatten]
  simp only [List.map_map, prod_map_range]; rfl
end

theorem bdCol_range (α β : Rat) (r : Nat) (f : Nat → Nat) : bdCol α β ((List.range r).map f)
    = (∏ y ∈ Finset.range r, rising β (f y)) / rising α (∑ y ∈ Finset.range r, f y) := by
  rw [bdCol, List.map_map, prod_map_range, colTotal, sum_map_range]; rfl

/-- the common value: Π_j [ Π_{x,y} Γ(N_jxy + e/(q rx ry))/Γ(e/(q rx ry)) ] / [ Γ(N_j + e/q)/Γ(e/q) ] -/
def bdeuPair (ess : Rat) (q rx ry : Nat) (N : Nat → Nat → Nat → Nat) : Rat :=
  ∏ j ∈ Finset.range q,
    (∏ x ∈ Finset.range rx, ∏ y ∈ Finset.range ry, rising (ess / ((q * rx * ry : Nat) : Rat)) (N j x y))
      / rising (ess / (q : Rat)) (∑ x ∈ Finset.range rx, ∑ y ∈ Finset.range ry, N j x y)

theorem bdeu_chain (ess : Rat) (hess : 0 < ess) (q rx ry : Nat) (hq : 0 < q) (hrx : 0 < rx)
    (N : Nat → Nat → Nat → Nat) :
    bdeuExp ess rx (colsX q rx ry N) * bdeuExp ess ry (colsYgX q rx ry N) = bdeuPair ess q rx ry N := by
  rw [bdeuExp, bdeuExp, bdeuPair, length_colsX, length_colsYgX, prod_colsX, prod_colsYgX, ← Finset.prod_mul_distrib]
  -- `bdeuExp` divides `ess` by `rx * q` and by `ry * (q * rx)` where `bdeuPair` has `q * rx` and `q * rx * ry`
  rw [Nat.mul_comm rx q, Nat.mul_comm ry (q * rx)]
  refine Finset.prod_congr rfl fun j _ => ?_
  simp only [bdCol_range]
  -- the prior mass per state of X given Pa is the prior mass per configuration of (Pa, X): the row-total terms
  -- `rising (ess / (q * rx)) _` cancel. They are not zero as `q * rx > 0`; `ry` occurs only in terms that stay,
  -- so `0 < ry` is not needed here (the mirrored instance needs it in the place of `hrx`)
  have hqx : (0 : Rat) < ((q * rx : Nat) : Rat) := Nat.cast_pos.mpr (Nat.mul_pos hq hrx)
  rw [Finset.prod_div_distrib,
    div_mul_div_cancel₀' (Finset.prod_ne_zero_iff.mpr fun x _ => (rising_pos _ (div_pos hess hqx) _).ne')]

theorem powR_eq_pow (x : Rat) (n : Nat) : powR x n = x ^ n := by
  induction n with
  | zero => exact (pow_zero x).symm
  | succ n ih => rw [powR, ih, pow_succ]

def llCell (n t : Nat) : Rat := if n = 0 then 1 else powR ((n : Rat) / (t : Rat)) n

/-- the common value of the two factorizations: Π_j Π_{x,y} (N_jxy / N_j)^N_jxy -/
def llPair (q rx ry : Nat) (N : Nat → Nat → Nat → Nat) : Rat :=
  ∏ j ∈ Finset.range q, ∏ x ∈ Finset.range rx, ∏ y ∈ Finset.range ry,
    llCell (N j x y) (∑ x' ∈ Finset.range rx, ∑ y' ∈ Finset.range ry, N j x' y')

theorem llCol_range (r : Nat) (f : Nat → Nat) :
    llCol ((List.range r).map f) = ∏ y ∈ Finset.range r, llCell (f y) (∑ y' ∈ Finset.range r, f y') := by
  rw [llCol, colTotal, sum_map_range, List.map_map, prod_map_range]; rfl

theorem llCell_mul (n s t : Nat) (hs : n ≠ 0 → s ≠ 0) :
    llCell n s * powR ((s : Rat) / t) n = llCell n t := by
  unfold llCell
  by_cases hn : n = 0
  · simp [hn, powR]
  · have : (s : Rat) ≠ 0 := by exact_mod_cast hs hn
    rw [if_neg hn, if_neg hn, powR_eq_pow, powR_eq_pow, powR_eq_pow, ← mul_pow, div_mul_div_cancel₀ this]

theorem llCell_sum (r : Nat) (f : Nat → Nat) (t : Nat) :
    llCell (∑ y ∈ Finset.range r, f y) t
      = ∏ y ∈ Finset.range r, powR (((∑ y ∈ Finset.range r, f y : Nat) : Rat) / t) (f y) := by
  unfold llCell
  split
  · next h0 => exact (Finset.prod_eq_one fun y hy => by rw [Finset.sum_eq_zero_iff.mp h0 y hy]; rfl).symm
  · simp only [powR_eq_pow, Finset.prod_pow_eq_pow_sum]

theorem ll_chain (q rx ry : Nat) (N : Nat → Nat → Nat → Nat) :
    llExp (colsX q rx ry N) * llExp (colsYgX q rx ry N) = llPair q rx ry N := by
  -- (N_jx / N_j)^N_jx is split over y (`llCell_sum`) and merged with (N_jxy / N_jx)^N_jxy (`llCell_mul`)
  rw [llExp, llExp, llPair, prod_colsX, prod_colsYgX, ← Finset.prod_mul_distrib]
  refine Finset.prod_congr rfl fun j _ => ?_
  rw [llCol_range, ← Finset.prod_mul_distrib]
  refine Finset.prod_congr rfl fun x _ => ?_
  rw [llCol_range, llCell_sum, ← Finset.prod_mul_distrib]
  refine Finset.prod_congr rfl fun y hy => ?_
  rw [mul_comm]
  exact llCell_mul _ _ _ fun hn h0 => hn (Finset.sum_eq_zero_iff.mp h0 y hy)

end PgmVerif
