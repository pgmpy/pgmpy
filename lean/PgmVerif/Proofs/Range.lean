/-
  Proofs/Range.lean — a list sum / product over `List.range n` is the `Finset.range n` one.
-/
import Mathlib.Algebra.BigOperators.Group.Finset.Basic
namespace PgmVerif

theorem sum_map_range {M : Type} [AddCommMonoid M] (n : Nat) (f : Nat → M) :
    ((List.range n).map f).sum = ∑ i ∈ Finset.range n, f i := rfl

theorem prod_map_range {M : Type} [CommMonoid M] (n : Nat) (f : Nat → M) :
    ((List.range n).map f).prod = ∏ i ∈ Finset.range n, f i := rfl

end PgmVerif
