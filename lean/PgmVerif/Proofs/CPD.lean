/-
  Proofs/CPD.lean — a table whose first axis is the child: its column sums (`columnSums`) and its column
  normalisation (`CPD.colNormalize`, by definition `f.divide (columnSums f)`).  Shared by C05 and C06.
-/
import PgmVerif.Model.CPD
import PgmVerif.Proofs.SumProd
namespace PgmVerif
open Factor

theorem columnSums_isTable (K : Var → Nat) (f : Factor) (hf : f.WF K) (c : Var) (ps : List Var)
    (hs : f.scope = c :: ps) : IsTable K (columnSums f) ps (sumVar K c f.den) := by
  -- on a scope `c :: ps` the column sums are `f.marginalize [c]`
  have e : columnSums f = f.marginalize [c] := by unfold columnSums; rw [hs]
  have hc : c ∉ ps := (List.nodup_cons.mp (hs ▸ hf.1)).1
  refine e ▸ ⟨wf_marginalize K f hf [c], ?_, den_marginalize_one K f hf c (hs ▸ List.mem_cons_self)⟩
  rw [scope_marginalize K f hf, keepScope, hs, List.filter_cons_of_neg (by simp)]
  exact List.filter_eq_self.mpr fun v hv => by simpa using fun e : v = c => hc (e ▸ hv)

theorem scope_columnSums_sub (K : Var → Nat) (f : Factor) (hf : f.WF K) (c : Var) (ps : List Var)
    (hs : f.scope = c :: ps) : ∀ v ∈ (columnSums f).scope, v ∈ f.scope := fun _ hv =>
  hs ▸ List.mem_cons_of_mem c ((columnSums_isTable K f hf c ps hs).scope ▸ hv)

theorem columnSums_den (K : Var → Nat) (f : Factor) (hf : f.WF K) (c : Var) (ps : List Var)
    (hs : f.scope = c :: ps) (a : Asg) (ha : Bounded K a) :
    (columnSums f).den a = sumR ((List.range (K c)).map (fun x => f.den (upd a c x))) :=
  (columnSums_isTable K f hf c ps hs).den a ha

theorem den_colNormalize (K : Var → Nat) (f : Factor) (hf : f.WF K) (c : Var) (ps : List Var)
    (hs : f.scope = c :: ps) (a : Asg) (ha : Bounded K a) :
    (CPD.colNormalize f).den a
      = if sumVar K c f.den a = 0 then 0 else f.den a / sumVar K c f.den a := by
  -- by definition `colNormalize f` is `f.divide (columnSums f)`
  show (f.divide (columnSums f)).den a = _
  rw [den_divide K f _ hf (scope_columnSums_sub K f hf c ps hs) a ha, columnSums_den K f hf c ps hs a ha]
  rfl

end PgmVerif
