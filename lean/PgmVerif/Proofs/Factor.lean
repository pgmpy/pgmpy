/-
  Proofs/Factor.lean — what the table operations of the model denote.  A table operation is characterised by
  one lemma `…_isTable` (`IsTable`: well-formed, which axes, which function at every genuine state); the
  `wf_*`, `scope_*`, `den_*` lemmas are its projections.  `DependsOn` is the side condition under which
  `tabulate` denotes its defining function.  Also here: the maximum `maxR` of a list, the single-variable
  update `upd` with its algebra, the relation between the entries of a table and its denotation, and the rescaled
  table `Factor.scale`.
-/
import PgmVerif.Model.Factor
import PgmVerif.Proofs.Layout
import Mathlib.Algebra.Order.Field.Rat
namespace PgmVerif

theorem inRange_map (K : Var → Nat) (a : Asg) (ha : Bounded K a) :
    ∀ vs : List Var, InRange (vs.map K) (vs.map a)
  | [] => trivial
  | v :: vs => ⟨ha v, inRange_map K a ha vs⟩

theorem inRange_map_zip (K : Var → Nat) (vs : List Var) (xs : List Nat) (h : InRange (vs.map K) xs)
    (q : Var × Nat) (hq : q ∈ vs.zip xs) : q.2 < K q.1 := by
  induction vs generalizing xs with
  | nil => cases hq
  | cons v vs ih =>
    cases xs with
    | nil => cases hq
    | cons x xs =>
      rcases List.mem_cons.mp hq with rfl | e
      · exact h.1
      · exact ih xs h.2 e

theorem overrideL_inRange_bounded (K : Var → Nat) (b : Asg) (hb : Bounded K b) (vs : List Var)
    (xs : List Nat) (h : InRange (vs.map K) xs) : Bounded K (overrideL b vs xs) := by
  induction vs generalizing xs with
  | nil => exact hb
  | cons v vs ih =>
    cases xs with
    | nil => exact hb
    | cons x xs =>
      intro w
      simp only [overrideL]
      split
      · next e => exact e ▸ h.1
      · exact ih xs h.2 w

theorem overrideL_bounded (K : Var → Nat) (ev : List (Var × Nat)) (h : ∀ p ∈ ev, p.2 < K p.1)
    (b : Asg) (hb : Bounded K b) : Bounded K (overrideL b (ev.map (·.1)) (ev.map (·.2))) := by
  refine overrideL_inRange_bounded K b hb _ _ ?_
  induction ev with
  | nil => trivial
  | cons p ev ih => exact ⟨h p List.mem_cons_self, ih fun q hq => h q (List.mem_cons_of_mem _ hq)⟩

theorem lookupD_map (K : Var → Nat) (v : Var) (vs : List Var) (h : v ∈ vs) :
    lookupD 1 v (vs.map (fun w => (w, K w))) = K v := by
  induction vs with
  | nil => cases h
  | cons w ws ih =>
    simp only [List.map_cons, lookupD]
    split
    · next e => rw [e]
    · next e => exact ih ((List.mem_cons.mp h).resolve_left e)

theorem filter_contains_singleton (l : List Var) (v : Var) (hn : l.Nodup) (hv : v ∈ l) :
    l.filter (fun w => [v].contains w) = [v] := by
  have hc : (fun w => [v].contains w) = (· == v) :=
    funext fun w => by cases h : w == v <;> simp [List.contains, List.elem, h]
  rw [hc, List.filter_beq, List.count_eq_one_of_mem hn hv]
  rfl

theorem filter_contains_singleton_notin (l : List Var) (v : Var) (hv : v ∉ l) :
    l.filter (fun w => [v].contains w) = [] := by
  apply List.filter_eq_nil_iff.mpr
  intro u hu
  have : u ≠ v := fun e => hv (e ▸ hu)
  simp [this]

/- In `maxR_ge`, `maxR_mem` the cases of `fun_induction maxR` are: the empty list, a singleton `[y]`,
   `y :: z :: zs` with `y < m`, and with `¬ y < m`, where `m = maxR (z :: zs)`. -/
theorem maxR_ge (l : List Rat) (x : Rat) (h : x ∈ l) : x ≤ maxR l := by
  fun_induction maxR l with
  | case1 => cases h
  | case2 y => exact le_of_eq (List.mem_singleton.mp h)
  | case3 y z zs m hlt ih =>
    rcases List.mem_cons.mp h with rfl | h
    · exact le_of_lt hlt
    · exact ih h
  | case4 y z zs m hnl ih =>
    rcases List.mem_cons.mp h with rfl | h
    · exact le_refl _
    · exact le_trans (ih h) (not_lt.mp hnl)

theorem maxR_mem (l : List Rat) (hl : l ≠ []) : maxR l ∈ l := by
  fun_induction maxR l with
  | case1 => exact absurd rfl hl
  | case2 y => exact List.mem_singleton.mpr rfl
  | case3 y z zs m hlt ih => exact List.mem_cons_of_mem _ (ih (List.cons_ne_nil _ _))
  | case4 y z zs m hnl ih => exact List.mem_cons_self

theorem maxR_map_mul_left (c : Rat) (hc : 0 ≤ c) (l : List Rat) : maxR (l.map (c * ·)) = c * maxR l := by
  cases l with
  | nil => exact (mul_zero c).symm
  | cons x l =>
    have hne := List.cons_ne_nil x l
    apply le_antisymm
    · obtain ⟨y, hy, e⟩ := List.mem_map.mp (maxR_mem _ (mt List.map_eq_nil_iff.mp hne))
      rw [← e]
      exact mul_le_mul_of_nonneg_left (maxR_ge _ _ hy) hc
    · exact maxR_ge _ _ (List.mem_map_of_mem (f := (c * ·)) (maxR_mem _ hne))

namespace Factor

/-- `fn` only looks at the variables in `scope` -/
def DependsOn (fn : Asg → Rat) (scope : List Var) : Prop :=
  ∀ a b : Asg, (∀ v ∈ scope, a v = b v) → fn a = fn b

theorem den_dependsOn (f : Factor) : DependsOn f.den f.scope := by
  intro a b h
  unfold den
  rw [List.map_congr_left h]

/-- `den_dependsOn` for any list that contains the scope; written `.den f h` where a `DependsOn` is expected -/
theorem DependsOn.den (f : Factor) {t : List Var} (h : ∀ v ∈ f.scope, v ∈ t) : DependsOn f.den t :=
  fun a b hab => den_dependsOn f a b fun v hv => hab v (h v hv)

theorem DependsOn.map₂ {g h : Asg → Rat} {s : List Var} (op : Rat → Rat → Rat)
    (hg : DependsOn g s) (hh : DependsOn h s) : DependsOn (fun a => op (g a) (h a)) s :=
  fun a b hab => by simp only [hg a b hab, hh a b hab]

theorem DependsOn.overrideL {fn : Asg → Rat} {s t I : List Var} {xs : List Nat} (h : DependsOn fn s)
    (hl : xs.length = I.length) (ht : ∀ v ∈ s, v ∉ I → v ∈ t) :
    DependsOn (fun a => fn (overrideL a I xs)) t :=
  fun x y hxy => h _ _ fun v hv => overrideL_congr x y v I xs (fun hvI => hxy v (ht v hv hvI)) hl

theorem den_tabulate (scope : List Var) (card : List Nat) (fn : Asg → Rat) (a : Asg)
    (h : InRange card (scope.map a)) :
    (tabulate scope card fn).den a = fn (asgOf scope card (ravel card (scope.map a))) := by
  have hlt := ravel_lt card _ h
  simp [den, tabulate, Array.getD, hlt]

theorem wf_tabulate (K : Var → Nat) (scope : List Var) (fn : Asg → Rat) (hn : scope.Nodup) :
    (tabulate scope (scope.map K) fn).WF K := by
  refine ⟨hn, rfl, ?_⟩
  simp [tabulate]

theorem den_tabulateK (K : Var → Nat) (scope : List Var) (fn : Asg → Rat) (a : Asg)
    (ha : Bounded K a) (hd : DependsOn fn scope) :
    (tabulate scope (scope.map K) fn).den a = fn a := by
  have h := inRange_map K a ha scope
  rw [den_tabulate scope _ fn a h]
  exact hd _ _ fun v hv => asgOf_ravel scope _ a h v hv

theorem wf_tabulate_like (K : Var → Nat) (f : Factor) (hf : f.WF K) (fn : Asg → Rat) :
    (tabulate f.scope f.card fn).WF K := by
  rw [hf.2.1]; exact wf_tabulate K _ _ hf.1

theorem den_tabulate_like (K : Var → Nat) (f : Factor) (hf : f.WF K) (fn : Asg → Rat)
    (hd : DependsOn fn f.scope) (a : Asg) (ha : Bounded K a) :
    (tabulate f.scope f.card fn).den a = fn a := by
  rw [hf.2.1]; exact den_tabulateK K _ _ a ha hd

/-- `f` is a well-formed table over the axes `S` whose value at every genuine state is `fn` -/
structure IsTable (K : Var → Nat) (f : Factor) (S : List Var) (fn : Asg → Rat) : Prop where
  wf : f.WF K
  scope : f.scope = S
  den : ∀ a, Bounded K a → f.den a = fn a

theorem isTable_tabulate (K : Var → Nat) {S : List Var} {fn : Asg → Rat} (hn : S.Nodup)
    (hd : DependsOn fn S) : IsTable K (tabulate S (S.map K) fn) S fn :=
  ⟨wf_tabulate K S fn hn, rfl, fun a ha => den_tabulateK K S fn a ha hd⟩

theorem filter_zip_card (K : Var → Nat) (f : Factor) (hf : f.WF K) (p : Var → Bool) :
    ((f.scope.zip f.card).filter (fun q => p q.1)).map (·.1) = f.scope.filter p ∧
    ((f.scope.zip f.card).filter (fun q => p q.1)).map (·.2) = (f.scope.filter p).map K := by
  rw [hf.2.1, ← List.map_prod_left_eq_zip, List.filter_map, List.map_map, List.map_map]
  exact ⟨List.map_id _, rfl⟩

/-- scope of `combine`: f's axes then g's new ones -/
def unionScope (f g : Factor) : List Var :=
  f.scope ++ g.scope.filter (fun v => !f.scope.contains v)

theorem mem_unionScope (f g : Factor) (v : Var) :
    v ∈ unionScope f g ↔ v ∈ f.scope ∨ v ∈ g.scope := by
  by_cases hv : v ∈ f.scope <;> simp [unionScope, hv]

theorem nodup_unionScope (f g : Factor) (hf : f.scope.Nodup) (hg : g.scope.Nodup) :
    (unionScope f g).Nodup :=
  List.nodup_append.mpr ⟨hf, hg.filter _, fun a ha b hb e => by
    subst e; simpa [ha] using (List.mem_filter.mp hb).2⟩

theorem unionScope_of_subset (f g : Factor) (h : ∀ v ∈ g.scope, v ∈ f.scope) :
    unionScope f g = f.scope := by
  rw [unionScope, List.filter_eq_nil_iff.mpr (fun v hv => by simp [h v hv]), List.append_nil]

theorem combine_isTable (K : Var → Nat) (op : Rat → Rat → Rat) (f g : Factor) (hf : f.WF K) (hg : g.WF K) :
    IsTable K (combine op f g) (unionScope f g) (fun a => op (f.den a) (g.den a)) := by
  have e : combine op f g = tabulate (unionScope f g) ((unionScope f g).map K)
      (fun a => op (f.den a) (g.den a)) := by
    unfold combine extra unionScope
    simp only [filter_zip_card K g hg fun v => !f.scope.contains v, List.map_append, hf.2.1]
  rw [e]
  exact isTable_tabulate K (nodup_unionScope f g hf.1 hg.1)
    (.map₂ op (.den f fun v hv => (mem_unionScope f g v).mpr (.inl hv))
      (.den g fun v hv => (mem_unionScope f g v).mpr (.inr hv)))

theorem scope_combine (K : Var → Nat) (op : Rat → Rat → Rat) (f g : Factor) (hf : f.WF K) (hg : g.WF K) :
    (combine op f g).scope = unionScope f g :=
  (combine_isTable K op f g hf hg).scope

theorem mem_scope_product (K : Var → Nat) (f g : Factor) (hf : f.WF K) (hg : g.WF K) (v : Var) :
    v ∈ (product f g).scope ↔ v ∈ f.scope ∨ v ∈ g.scope := by
  unfold product; rw [scope_combine K _ f g hf hg]; exact mem_unionScope f g v

theorem den_product (K : Var → Nat) (f g : Factor) (hf : f.WF K) (hg : g.WF K)
    (a : Asg) (ha : Bounded K a) : (product f g).den a = f.den a * g.den a :=
  (combine_isTable K _ f g hf hg).den a ha

theorem den_add (K : Var → Nat) (f g : Factor) (hf : f.WF K) (hg : g.WF K)
    (a : Asg) (ha : Bounded K a) : (add f g).den a = f.den a + g.den a :=
  (combine_isTable K _ f g hf hg).den a ha

theorem wf_product (K : Var → Nat) (f g : Factor) (hf : f.WF K) (hg : g.WF K) : (product f g).WF K :=
  (combine_isTable K _ f g hf hg).wf

theorem wf_add (K : Var → Nat) (f g : Factor) (hf : f.WF K) (hg : g.WF K) : (add f g).WF K :=
  (combine_isTable K _ f g hf hg).wf

theorem wf_divide (K : Var → Nat) (f g : Factor) (hf : f.WF K) : (divide f g).WF K :=
  wf_tabulate_like K f hf _

/-- division: pointwise quotient, with 0/0 = 0 (and x/0 reported separately as +inf) -/
theorem den_divide (K : Var → Nat) (f g : Factor) (hf : f.WF K)
    (hsub : ∀ v ∈ g.scope, v ∈ f.scope) (a : Asg) (ha : Bounded K a) :
    (divide f g).den a = if g.den a = 0 then 0 else f.den a / g.den a :=
  den_tabulate_like K f hf _
    (.map₂ (fun x y => if y = 0 then 0 else x / y) (den_dependsOn f) (.den g hsub)) a ha

/-- variables of `f` that are eliminated / kept by an operation on `vs` -/
def elimScope (f : Factor) (vs : List Var) : List Var := f.scope.filter (fun v => vs.contains v)
def keepScope (f : Factor) (vs : List Var) : List Var := f.scope.filter (fun v => !vs.contains v)

theorem mem_elimScope {f : Factor} {vs : List Var} {v : Var} :
    v ∈ elimScope f vs ↔ v ∈ f.scope ∧ v ∈ vs := by
  simp [elimScope]

theorem mem_keepScope {f : Factor} {vs : List Var} {v : Var} :
    v ∈ keepScope f vs ↔ v ∈ f.scope ∧ v ∉ vs :=
  mem_filter_not_contains

theorem keepScope_cons (f : Factor) (c : Var) (ps : List Var) (hs : f.scope = c :: ps)
    (vs : List Var) (hc : c ∉ vs) : keepScope f vs = c :: ps.filter (fun v => !vs.contains v) := by
  rw [keepScope, hs, List.filter_cons_of_pos (by simpa using hc)]

theorem mem_overStates {I : List Var} {cards : List Nat} {a : Asg} {fn : Asg → Rat} {y : Rat} :
    y ∈ overStates I cards a fn ↔ ∃ xs, InRange cards xs ∧ fn (overrideL a I xs) = y := by
  have e : overStates I cards a fn
      = ((allIdx cards).map (unravel cards)).map (fun xs => fn (overrideL a I xs)) :=
    (List.map_map (g := fun xs => fn (overrideL a I xs)) (f := unravel cards)).symm
  rw [e, List.mem_map]
  exact ⟨fun ⟨xs, h, e⟩ => ⟨xs, inRange_of_mem_tuples cards xs h, e⟩,
    fun ⟨xs, h, e⟩ => ⟨xs, mem_tuples_of_inRange cards xs h, e⟩⟩

/-- `marginalize` and `maximize` with the fold left open.  `marginalize f vs` unfolds to `elimWith sumR f vs` and
    `maximize f vs` to `elimWith maxR f vs` (both `rfl`); the lemmas about `marginalize` / `maximize` below are
    projections of `elimWith_isTable` read through this unfolding. -/
def elimWith (op : List Rat → Rat) (f : Factor) (vs : List Var) : Factor :=
  let ins := f.inside vs
  let out := f.outside vs
  tabulate (out.map (·.1)) (out.map (·.2))
    (fun a => op (overStates (ins.map (·.1)) (ins.map (·.2)) a f.den))

theorem elimWith_isTable (K : Var → Nat) (op : List Rat → Rat) (f : Factor) (hf : f.WF K) (vs : List Var) :
    IsTable K (elimWith op f vs) (keepScope f vs)
      (fun a => op (overStates (elimScope f vs) ((elimScope f vs).map K) a f.den)) := by
  have e : elimWith op f vs = tabulate (keepScope f vs) ((keepScope f vs).map K)
      (fun a => op (overStates (elimScope f vs) ((elimScope f vs).map K) a f.den)) := by
    unfold elimWith inside outside
    simp only [filter_zip_card K f hf fun v => !vs.contains v, filter_zip_card K f hf vs.contains]
    rfl
  rw [e]
  refine isTable_tabulate K (hf.1.filter _) fun x y hxy => congrArg op (List.map_congr_left fun i _ => ?_)
  exact (den_dependsOn f).overrideL (by rw [unravel_length, List.length_map]) (fun v hv hI =>
    mem_keepScope.mpr ⟨hv, fun hvs => hI (mem_elimScope.mpr ⟨hv, hvs⟩)⟩) x y hxy

theorem wf_marginalize (K : Var → Nat) (f : Factor) (hf : f.WF K) (vs : List Var) :
    (marginalize f vs).WF K :=
  (elimWith_isTable K sumR f hf vs).wf

theorem scope_marginalize (K : Var → Nat) (f : Factor) (hf : f.WF K) (vs : List Var) :
    (marginalize f vs).scope = keepScope f vs :=
  (elimWith_isTable K sumR f hf vs).scope

/-- marginalisation sums the table over every joint state of the eliminated variables -/
theorem den_marginalize (K : Var → Nat) (f : Factor) (hf : f.WF K) (vs : List Var)
    (a : Asg) (ha : Bounded K a) :
    (marginalize f vs).den a
      = sumR (overStates (elimScope f vs) ((elimScope f vs).map K) a f.den) :=
  (elimWith_isTable K sumR f hf vs).den a ha

theorem den_maximize (K : Var → Nat) (f : Factor) (hf : f.WF K) (vs : List Var)
    (a : Asg) (ha : Bounded K a) :
    (maximize f vs).den a
      = maxR (overStates (elimScope f vs) ((elimScope f vs).map K) a f.den) :=
  (elimWith_isTable K maxR f hf vs).den a ha

theorem reduce_isTable (K : Var → Nat) (f : Factor) (hf : f.WF K) (ev : List (Var × Nat)) :
    IsTable K (reduce f ev) (keepScope f (ev.map (·.1)))
      (fun a => f.den (overrideL a (ev.map (·.1)) (ev.map (·.2)))) := by
  have e : reduce f ev = tabulate (keepScope f (ev.map (·.1))) ((keepScope f (ev.map (·.1))).map K)
      (fun a => f.den (overrideL a (ev.map (·.1)) (ev.map (·.2)))) := by
    unfold reduce outside
    simp only [filter_zip_card K f hf fun v => !(ev.map (·.1)).contains v]
    rfl
  rw [e]
  exact isTable_tabulate K (hf.1.filter _)
    ((den_dependsOn f).overrideL (by simp) fun v hv hE => mem_keepScope.mpr ⟨hv, hE⟩)

theorem wf_reduce (K : Var → Nat) (f : Factor) (hf : f.WF K) (ev : List (Var × Nat)) :
    (reduce f ev).WF K :=
  (reduce_isTable K f hf ev).wf

theorem scope_reduce (K : Var → Nat) (f : Factor) (hf : f.WF K) (ev : List (Var × Nat)) :
    (reduce f ev).scope = keepScope f (ev.map (·.1)) :=
  (reduce_isTable K f hf ev).scope

/-- reduction fixes the context variables to the given states -/
theorem den_reduce (K : Var → Nat) (f : Factor) (hf : f.WF K) (ev : List (Var × Nat))
    (a : Asg) (ha : Bounded K a) :
    (reduce f ev).den a = f.den (overrideL a (ev.map (·.1)) (ev.map (·.2))) :=
  (reduce_isTable K f hf ev).den a ha

theorem cardOf_eq (K : Var → Nat) (f : Factor) (hf : f.WF K) (v : Var) (hv : v ∈ f.scope) :
    f.cardOf v = K v := by
  unfold cardOf
  rw [hf.2.1, ← List.map_prod_left_eq_zip]
  exact lookupD_map K v f.scope hv

theorem permuteAxes_eq (K : Var → Nat) (f : Factor) (hf : f.WF K) (ns : List Var)
    (hsub : ∀ v ∈ ns, v ∈ f.scope) :
    permuteAxes f ns = tabulate ns (ns.map K) f.den := by
  unfold permuteAxes
  congr 1
  exact List.map_congr_left (fun v hv => cardOf_eq K f hf v (hsub v hv))

theorem wf_permuteAxes (K : Var → Nat) (f : Factor) (hf : f.WF K) (ns : List Var)
    (hn : ns.Nodup) (hsub : ∀ v ∈ ns, v ∈ f.scope) : (permuteAxes f ns).WF K := by
  rw [permuteAxes_eq K f hf ns hsub]
  exact wf_tabulate K _ _ hn

/-- presenting a factor with another axis order does not change what it denotes -/
theorem den_permuteAxes (K : Var → Nat) (f : Factor) (hf : f.WF K) (ns : List Var)
    (hsub : ∀ v ∈ ns, v ∈ f.scope) (hsup : ∀ v ∈ f.scope, v ∈ ns)
    (a : Asg) (ha : Bounded K a) : (permuteAxes f ns).den a = f.den a := by
  rw [permuteAxes_eq K f hf ns hsub]
  exact den_tabulateK K _ _ a ha (.den f hsup)

/-- `a` with `v` set to `x` -/
def upd (a : Asg) (v : Var) (x : Nat) : Asg := fun w => if w = v then x else a w

theorem upd_same (a : Asg) (v : Var) (x : Nat) : upd a v x v = x := if_pos rfl
theorem upd_of_ne (a : Asg) {v w : Var} (x : Nat) (h : w ≠ v) : upd a v x w = a w := if_neg h

theorem upd_bounded {K : Var → Nat} {a : Asg} (ha : Bounded K a) (v : Var) (x : Nat) (hx : x < K v) :
    Bounded K (upd a v x) := by
  intro w
  unfold upd
  split
  · next e => exact e ▸ hx
  · exact ha w

theorem upd_comm (a : Asg) (u v : Var) (x y : Nat) (h : u ≠ v) :
    upd (upd a u x) v y = upd (upd a v y) u x := by
  funext w
  unfold upd
  by_cases e1 : w = v
  · rw [if_pos e1, if_neg fun e2 => h (e2.symm.trans e1), if_pos e1]
  · rw [if_neg e1, if_neg e1]

theorem upd_upd (a : Asg) (v : Var) (x y : Nat) : upd (upd a v x) v y = upd a v y := by
  funext w
  unfold upd
  split <;> rfl

theorem upd_self (a : Asg) (v : Var) : upd a v (a v) = a := by
  funext w; unfold upd; by_cases e : w = v <;> simp [e]

theorem overrideL_cons_upd (a : Asg) (v : Var) (x : Nat) (I : List Var) (xs : List Nat) (hv : v ∉ I) :
    overrideL a (v :: I) (x :: xs) = overrideL (upd a v x) I xs := by
  funext w
  simp only [overrideL]
  split
  · next e => rw [e, overrideL_notin _ I xs v hv, upd_same]
  · next e => exact overrideL_of_eq (upd_of_ne a x e).symm I xs

theorem overStates_one (v : Var) (c : Nat) (a : Asg) (fn : Asg → Rat) :
    overStates [v] [c] a fn = (List.range c).map (fun x => fn (upd a v x)) := by
  unfold overStates allIdx
  simp only [List.prod_cons, List.prod_nil, Nat.mul_one]
  apply List.map_congr_left
  intro i _
  congr 1
  funext w
  simp [unravel, overrideL, upd]

theorem den_elimWith_one (K : Var → Nat) (op : List Rat → Rat) (f : Factor) (hf : f.WF K) (v : Var)
    (hv : v ∈ f.scope) (a : Asg) (ha : Bounded K a) :
    (elimWith op f [v]).den a = op ((List.range (K v)).map (fun x => f.den (upd a v x))) := by
  rw [(elimWith_isTable K op f hf [v]).den a ha]
  unfold elimScope
  rw [filter_contains_singleton f.scope v hf.1 hv]
  simp only [List.map_cons, List.map_nil]
  rw [overStates_one]

/-- summing out one variable of the scope: Σ_x f(a[v := x]) -/
theorem den_marginalize_one (K : Var → Nat) (f : Factor) (hf : f.WF K) (v : Var) (hv : v ∈ f.scope)
    (a : Asg) (ha : Bounded K a) :
    (marginalize f [v]).den a = sumR ((List.range (K v)).map (fun x => f.den (upd a v x))) :=
  den_elimWith_one K sumR f hf v hv a ha

theorem den_maximize_one (K : Var → Nat) (f : Factor) (hf : f.WF K) (v : Var) (hv : v ∈ f.scope)
    (a : Asg) (ha : Bounded K a) :
    (maximize f [v]).den a = maxR ((List.range (K v)).map (fun x => f.den (upd a v x))) :=
  den_elimWith_one K maxR f hf v hv a ha

/-- summing out a variable that is not in the scope changes nothing -/
theorem den_marginalize_notin (K : Var → Nat) (f : Factor) (hf : f.WF K) (v : Var) (hv : v ∉ f.scope)
    (a : Asg) (ha : Bounded K a) : (marginalize f [v]).den a = f.den a := by
  rw [den_marginalize K f hf [v] a ha]
  unfold elimScope
  rw [filter_contains_singleton_notin f.scope v hv]
  simp [overStates, allIdx, overrideL, sumR]

theorem den_overrideL_unravel (K : Var → Nat) (f : Factor) (hf : f.WF K) (a0 : Asg) (i : Nat)
    (hi : i < f.card.prod) : f.den (overrideL a0 f.scope (unravel f.card i)) = f.vals.getD i 0 := by
  unfold den
  rw [overrideL_map a0 _ _ hf.1 (by rw [unravel_length, hf.2.1, List.length_map]), ravel_unravel _ _ hi]

theorem den_asgOf (K : Var → Nat) (f : Factor) (hf : f.WF K) (i : Nat) (hi : i < f.card.prod) :
    f.den (asgOf f.scope f.card i) = f.vals.getD i 0 :=
  den_overrideL_unravel K f hf _ i hi

/-- `hK` is needed for the variables outside the scope, which `asgOf` sends to state 0 -/
theorem asgOf_bounded (K : Var → Nat) (hK : ∀ v, 0 < K v) (f : Factor) (hf : f.WF K) (i : Nat)
    (hi : i < f.card.prod) : Bounded K (asgOf f.scope f.card i) :=
  overrideL_inRange_bounded K _ (fun v => hK v) _ _ (hf.2.1 ▸ unravel_inRange f.card i hi)

/-- the denotation at a genuine state as an entry `vals[i]` with its bound, the form in which `Array.all` and
    `Array.any` speak of the entries (validation of CPD columns) -/
theorem den_eq_getElem (K : Var → Nat) (f : Factor) (hf : f.WF K) (a : Asg) (ha : Bounded K a) :
    ∃ h : ravel f.card (f.scope.map a) < f.vals.size,
      f.den a = f.vals[ravel f.card (f.scope.map a)] := by
  have hlt : ravel f.card (f.scope.map a) < f.vals.size :=
    hf.2.2 ▸ ravel_lt _ _ (hf.2.1 ▸ inRange_map K a ha f.scope)
  exact ⟨hlt, by simp [den, Array.getD, hlt]⟩

theorem den_normalize (f : Factor) (a : Asg) : (normalize f).den a = f.den a / f.total := by
  -- unfolded, `(normalize f).den a` is the left side of `h` with default `0` in place of `0 / f.total`
  have h := array_getD_map (· / f.total) f.vals (ravel f.card (f.scope.map a)) 0
  rwa [zero_div] at h

theorem wf_normalize (K : Var → Nat) (f : Factor) (hf : f.WF K) : (normalize f).WF K := by
  refine ⟨hf.1, hf.2.1, ?_⟩
  simp [normalize, hf.2.2]

theorem total_eq (K : Var → Nat) (f : Factor) (hf : f.WF K) :
    f.total = sumR ((allIdx f.card).map (fun i => f.den (asgOf f.scope f.card i))) := by
  unfold total allIdx
  congr 1
  apply List.ext_getElem
  · simp [hf.2.2]
  · intro i h1 h2
    simp only [List.length_map, List.length_range] at h2
    simp only [List.getElem_map, List.getElem_range]
    rw [den_asgOf K f hf i h2]
    simp [Array.getD, hf.2.2, h2]

end Factor

/-- every entry multiplied by `c` -/
def Factor.scale (c : Rat) (f : Factor) : Factor := { f with vals := f.vals.map (c * ·) }

theorem scale_wf (K : Var → Nat) (c : Rat) (f : Factor) (hf : f.WF K) : (Factor.scale c f).WF K := by
  refine ⟨hf.1, hf.2.1, ?_⟩
  simp only [Factor.scale, Array.size_map]
  exact hf.2.2

theorem scale_den (c : Rat) (f : Factor) (a : Asg) : (Factor.scale c f).den a = c * f.den a := by
  have h := array_getD_map (c * ·) f.vals (ravel f.card (f.scope.map a)) 0
  -- unfolded, `(Factor.scale c f).den a` is the left side of `h` with default `0` in place of `c * 0`
  rwa [mul_zero] at h

end PgmVerif
