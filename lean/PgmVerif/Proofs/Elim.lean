/-
  Proofs/Elim.lean — the fill-in graph produced by eliminating the vertices in ANY order has that
  order as a perfect elimination ordering: when a vertex is eliminated, its not yet eliminated
  neighbours in the FINAL graph are pairwise adjacent.  (A graph with a perfect elimination ordering
  is chordal — Fulkerson & Gross 1965, the direction proved in Proofs/Chordal.lean.)
-/
import PgmVerif.Model.JTree
import PgmVerif.Proofs.Chordal
namespace PgmVerif
namespace UG

/-- adjacency as a proposition on an edge list -/
def AdjE (E : List (Var × Var)) (u v : Var) : Prop := (u, v) ∈ E ∨ (v, u) ∈ E

theorem adj_iff (g : UG) (u v : Var) : g.adj u v = true ↔ AdjE g.edges u v := by
  unfold adj AdjE
  simp

theorem AdjE.symm {E : List (Var × Var)} {u v : Var} (h : AdjE E u v) : AdjE E v u := Or.symm h
theorem AdjE.mono {E E' : List (Var × Var)} {u v : Var} (h : AdjE E u v) (hsub : ∀ e ∈ E, e ∈ E') : AdjE E' u v :=
  h.elim (fun h => Or.inl (hsub _ h)) (fun h => Or.inr (hsub _ h))

/-- the fill-in edges created when `v` is eliminated from `g` -/
def fillOf (g : UG) (v : Var) : List (Var × Var) :=
  let ns := g.nbrs v
  ns.flatMap (fun a => ns.filterMap (fun b => if a < b && !g.adj a b then some (a, b) else none))

/-- the graph after eliminating `v` -/
def afterElim (g : UG) (v : Var) : UG := ({ g with edges := g.edges ++ g.fillOf v } : UG).remove v

theorem eliminate_cons (g : UG) (v : Var) (vs : List Var) :
    g.eliminate (v :: vs) = g.fillOf v ++ (g.afterElim v).eliminate vs := by
  -- `eliminate` folds with an accumulator; what has been accumulated stays in front.  The step function of the fold in
  -- Model/JTree.lean is, by unfolding `afterElim` and `fillOf`, the one written here: the last line relies on that
  have hacc : ∀ (vs : List Var) (g : UG) (acc : List (Var × Var)),
      (vs.foldl (fun (st : UG × List (Var × Var)) v => (st.1.afterElim v, st.2 ++ st.1.fillOf v)) (g, acc)).2 =
      acc ++ (vs.foldl (fun (st : UG × List (Var × Var)) v => (st.1.afterElim v, st.2 ++ st.1.fillOf v)) (g, [])).2 := by
    intro vs
    induction vs with
    | nil => intro g acc; exact (List.append_nil acc).symm
    | cons w ws ih =>
      intro g acc
      rw [List.foldl_cons, List.foldl_cons, ih, ih _ ([] ++ _), List.nil_append, List.append_assoc]
  exact hacc vs (g.afterElim v) ([] ++ g.fillOf v)

theorem mem_nbrs (g : UG) (v w : Var) : w ∈ g.nbrs v ↔ w ∈ g.nodes ∧ w ≠ v ∧ AdjE g.edges v w := by
  unfold nbrs
  rw [List.mem_filter]
  simp only [Bool.and_eq_true, bne_iff_ne, ne_eq, adj_iff]

theorem mem_fillOf (g : UG) (v : Var) (e : Var × Var) :
    e ∈ g.fillOf v ↔ e.1 ∈ g.nbrs v ∧ e.2 ∈ g.nbrs v ∧ e.1 < e.2 ∧ ¬ AdjE g.edges e.1 e.2 := by
  obtain ⟨a, b⟩ := e
  simp only [fillOf, List.mem_flatMap, List.mem_filterMap, Option.ite_none_right_eq_some, Option.some.injEq,
    Prod.mk.injEq, Bool.and_eq_true, decide_eq_true_eq, Bool.not_eq_true', ← Bool.not_eq_true, adj_iff]
  constructor
  · rintro ⟨a', ha, b', hb, h, rfl, rfl⟩; exact ⟨ha, hb, h⟩
  · rintro ⟨ha, hb, h⟩; exact ⟨a, ha, b, hb, h, rfl, rfl⟩

theorem adjE_fillOf (g : UG) (v a b : Var) (ha : a ∈ g.nbrs v) (hb : b ∈ g.nbrs v) (hab : a ≠ b) :
    AdjE (g.edges ++ g.fillOf v) a b := by
  by_cases hadj : AdjE g.edges a b
  · exact hadj.mono fun _ => List.mem_append_left _
  · rcases Nat.lt_or_gt_of_ne hab with hlt | hgt
    · exact .inl (List.mem_append_right _ ((mem_fillOf g v (a, b)).mpr ⟨ha, hb, hlt, hadj⟩))
    · exact .inr (List.mem_append_right _ ((mem_fillOf g v (b, a)).mpr ⟨hb, ha, hgt, fun h => hadj h.symm⟩))

theorem mem_afterElim_nodes (g : UG) (v : Var) (w : Var) : w ∈ (g.afterElim v).nodes ↔ w ∈ g.nodes ∧ w ≠ v := by
  unfold afterElim remove
  simp [List.mem_filter]

theorem mem_afterElim_edges (g : UG) (v : Var) (e : Var × Var) :
    e ∈ (g.afterElim v).edges ↔ (e ∈ g.edges ∨ e ∈ g.fillOf v) ∧ e.1 ≠ v ∧ e.2 ≠ v := by
  unfold afterElim remove
  simp only [List.mem_filter, List.mem_append, Bool.and_eq_true, bne_iff_ne, ne_eq]

theorem eliminate_nodes (g : UG) (order : List Var) (e : Var × Var) (h : e ∈ g.eliminate order) :
    e.1 ∈ g.nodes ∧ e.2 ∈ g.nodes := by
  induction order generalizing g with
  | nil => cases h
  | cons v vs ih =>
    rw [eliminate_cons, List.mem_append] at h
    rcases h with h | h
    · obtain ⟨h1, h2, _, _⟩ := (mem_fillOf g v e).mp h
      exact ⟨((mem_nbrs g v e.1).mp h1).1, ((mem_nbrs g v e.2).mp h2).1⟩
    · obtain ⟨h1, h2⟩ := ih (g.afterElim v) h
      exact ⟨((mem_afterElim_nodes g v e.1).mp h1).1, ((mem_afterElim_nodes g v e.2).mp h2).1⟩

/-- "filled" graph of `g` and an order: the edge list `g.edges ++ g.eliminate order` (what `triangulate` returns).
    Away from the first eliminated vertex it is the filled graph of the remaining problem -/
theorem filled_cons (g : UG) (v : Var) (vs : List Var) (e : Var × Var) (h1 : e.1 ≠ v) (h2 : e.2 ≠ v) :
    e ∈ g.edges ++ g.eliminate (v :: vs) ↔ e ∈ (g.afterElim v).edges ++ (g.afterElim v).eliminate vs := by
  simp only [eliminate_cons, List.mem_append, mem_afterElim_edges, h1, h2, ne_eq, not_false_eq_true, and_true, or_assoc]

/-- at the first eliminated vertex the filled graph has the original edges only: every later fill-in edge joins
    vertices that are still present -/
theorem filled_head (g : UG) (v : Var) (vs : List Var) (c : Var)
    (h : AdjE (g.edges ++ g.eliminate (v :: vs)) v c) : AdjE g.edges v c := by
  have nov : ∀ e ∈ g.eliminate (v :: vs), e.1 ≠ v ∧ e.2 ≠ v := by
    intro e he
    rw [eliminate_cons, List.mem_append] at he
    rcases he with he | he
    · obtain ⟨h1, h2, _, _⟩ := (mem_fillOf g v e).mp he
      exact ⟨((mem_nbrs g v e.1).mp h1).2.1, ((mem_nbrs g v e.2).mp h2).2.1⟩
    · obtain ⟨h1, h2⟩ := eliminate_nodes (g.afterElim v) vs e he
      exact ⟨((mem_afterElim_nodes g v e.1).mp h1).2, ((mem_afterElim_nodes g v e.2).mp h2).2⟩
  exact h.imp (fun h => (List.mem_append.mp h).resolve_right fun h => (nov _ h).1 rfl)
    (fun h => (List.mem_append.mp h).resolve_right fun h => (nov _ h).2 rfl)

/-- head: the later neighbours of `v` in the filled graph are neighbours in `g` (`filled_head`), which `fillOf` joins
    pairwise; tail: the induction hypothesis for `g.afterElim v`, carried over by `filled_cons` -/
theorem peo_eliminate (g : UG) (order : List Var) (hnd : order.Nodup) (hin : ∀ w ∈ order, w ∈ g.nodes) :
    PEO (AdjE (g.edges ++ g.eliminate order)) order := by
  induction order generalizing g with
  | nil => trivial
  | cons v vs ih =>
    obtain ⟨hv, hnd'⟩ := List.nodup_cons.mp hnd
    have hne : ∀ a ∈ vs, a ≠ v := fun a ha e => hv (e ▸ ha)
    constructor
    · intro a ha b hb hab hva hvb
      have hn : ∀ c ∈ vs, AdjE (g.edges ++ g.eliminate (v :: vs)) v c → c ∈ g.nbrs v := fun c hc h =>
        (mem_nbrs g v c).mpr ⟨hin c (List.mem_cons_of_mem _ hc), hne c hc, filled_head g v vs c h⟩
      refine (adjE_fillOf g v a b (hn a ha hva) (hn b hb hvb) hab).mono fun e he => ?_
      rw [eliminate_cons, ← List.append_assoc]
      exact List.mem_append_left _ he
    · refine (ih (g.afterElim v) hnd' fun w hw =>
        (mem_afterElim_nodes g v w).mpr ⟨hin w (List.mem_cons_of_mem _ hw), hne w hw⟩).congr fun a ha b hb => ?_
      unfold AdjE
      rw [filled_cons g v vs (a, b) (hne a ha) (hne b hb), filled_cons g v vs (b, a) (hne b hb) (hne a ha)]

end UG
