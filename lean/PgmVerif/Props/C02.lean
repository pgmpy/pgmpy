/-
  Props/C02.lean — belief propagation on a clique tree.
  The clique-tree measure is an invariant of EVERY belief-update message (hence of every
  schedule and iteration order); in a calibrated tree (two cliques, or any tree given in leaf-peeling
  order; sum-product or max-product) the root belief is the exact marginal of the measure.
-/
import PgmVerif.Proofs.SumProd
namespace PgmVerif
open Factor

/-- **measure invariant**, pointwise at any assignment: if  β_i · β_j · (other beliefs) =
    μ · (other sepsets) · F  before the message i → j, then after  β_j ← β_j·σ/μ, μ ← σ  the same
    identity holds with the new values (μ ≠ 0 at this assignment; where μ = 0 the code keeps
    0/0 = 0 and the support condition σ = 0 makes both sides vanish, second part) -/
theorem C02_update_preserves_measure (bi bj mu sigma restB restM F : Rat)
    (hinv : bi * bj * restB = mu * restM * F) :
    (mu ≠ 0 → bi * (bj * (sigma / mu)) * restB = sigma * restM * F) ∧
    (mu = 0 → sigma = 0 → bi * (bj * 0) * restB = sigma * restM * F) := by
  constructor
  · intro hmu
    rw [show bi * (bj * (sigma / mu)) * restB = bi * bj * restB * (sigma / mu) by ring, hinv,
      show mu * restM * F * (sigma / mu) = mu / mu * (sigma * restM * F) by ring, div_self hmu, one_mul]
  · intro _ hs
    rw [hs]; ring

/-- **a calibrated tree is a fixed point of message passing, and a message sent twice counts once**: when the sender's
    marginal σ already equals the sepset belief μ, the update β_j ← β_j·σ/μ changes nothing (where μ = 0 the code's
    0/0 = 0 meets β_j = 0, the support condition); hence right after a message i → j (μ is now σ) a second copy of it
    multiplies β_j by σ/σ = 1 - the result of calibration does not depend on how often the schedule repeats an edge -/
theorem C02_calibrated_fixed_point (bj mu sigma : Rat) :
    (sigma = mu → mu ≠ 0 → bj * (sigma / mu) = bj) ∧
    (sigma = mu → mu = 0 → bj = 0 → bj * 0 = bj) ∧
    (sigma ≠ 0 → (bj * (sigma / mu)) * (sigma / sigma) = bj * (sigma / mu)) := by
  refine ⟨?_, ?_, ?_⟩
  · intro h hne
    rw [h, div_self hne, mul_one]
  · intro _ _ hb
    rw [hb, zero_mul]
  · intro hs
    rw [div_self hs, mul_one]

/-- after a message the receiver agrees with the (new) sepset belief, provided it agreed with
    the old one: Σ_{C_j∖S} β_j·σ/μ = σ -/
theorem C02_sepset_agreement_after_update (K : Var → Nat) (onlyJ : List Var) (bj mu sigma : Asg → Rat)
    (hmu : IndepOf mu onlyJ) (hsig : IndepOf sigma onlyJ)
    (hagree : ∀ a, sumOut K onlyJ bj a = mu a) (a : Asg) (hne : mu a ≠ 0) :
    sumOut K onlyJ (fun b => bj b * (sigma b / mu b)) a = sigma a := by
  have e : (fun b => bj b * (sigma b / mu b)) = fun b => sigma b * (bj b / mu b) := funext fun b => by ring
  rw [e]
  exact sumOut_mul_div_cancel K onlyJ sigma bj mu hsig hmu a (hagree a) hne

/-- **two cliques**: if the measure invariant holds (F = β₁β₂/μ) and the tree is calibrated
    (Σ_{C₂∖S} β₂ = μ), then β₁ is exactly the marginal of F over its clique -/
theorem C02_two_clique_exact (K : Var → Nat) (only2 : List Var) (b1 b2 mu F : Asg → Rat)
    (h1 : IndepOf b1 only2) (hmu : IndepOf mu only2)
    (hcal : ∀ a, sumOut K only2 b2 a = mu a)
    (hF : ∀ a, F a = b1 a * b2 a / mu a) (a : Asg) (hne : mu a ≠ 0) :
    sumOut K only2 F a = b1 a := by
  have e : F = fun b => b1 b * (b2 b / mu b) := funext fun b => by rw [hF b, mul_div_assoc]
  rw [e]
  exact sumOut_mul_div_cancel K only2 b1 b2 mu h1 hmu a (hcal a) hne

/-! a numeric instance of the invariant `bi * bj * restB = mu * restM * F` of `C02_update_preserves_measure` -/
example : (2 : Rat) * 3 * 5 = 6 * 1 * 5 := by norm_num

/-! ### General trees: a calibrated clique tree carries the exact marginals

A rooted clique tree is given in a leaf-peeling order: `L = [cₙ, …, c₁]`, where `cᵢ` is a leaf of
the tree that remains after `cₙ … cᵢ₊₁` have been removed; `cᵢ.β` is its belief, `cᵢ.μ` the
sepset belief on its edge towards the rest and `cᵢ.priv = Cᵢ ∖ Sᵢ` its private variables (by the
running-intersection property they occur in no remaining clique or sepset).  Every tree with
the running-intersection property has such an order towards any chosen root `b0`. -/

structure Leaf where
  β : Asg → Rat
  μ : Asg → Rat
  priv : List Var

/-- the clique-tree measure  β₀ · ∏ᵢ βᵢ / μᵢ -/
def treeMeasure (b0 : Asg → Rat) : List Leaf → Asg → Rat
  | [] => b0
  | c :: rest => fun a => treeMeasure b0 rest a * (c.β a / c.μ a)

/-- leaf-peeling order + running intersection + calibration + positivity of the sepset beliefs -/
def Peelable (K : Var → Nat) (b0 : Asg → Rat) : List Leaf → Prop
  | [] => True
  | c :: rest =>
      IndepOf b0 c.priv ∧ (∀ d ∈ rest, IndepOf d.β c.priv ∧ IndepOf d.μ c.priv) ∧
      IndepOf c.μ c.priv ∧ (∀ a, sumOut K c.priv c.β a = c.μ a) ∧ (∀ a, c.μ a ≠ 0) ∧
      Peelable K b0 rest

theorem treeMeasure_indep (b0 : Asg → Rat) (vs : List Var) (h0 : IndepOf b0 vs) (L : List Leaf)
    (hL : ∀ d ∈ L, IndepOf d.β vs ∧ IndepOf d.μ vs) : IndepOf (treeMeasure b0 L) vs := by
  induction L with
  | nil => exact h0
  | cons c rest ih =>
    intro a v x hv
    have hc := hL c List.mem_cons_self
    simp only [treeMeasure, ih (fun d hd => hL d (List.mem_cons_of_mem _ hd)) a v x hv, hc.1 a v x hv,
      hc.2 a v x hv]

/-- **calibrated tree ⇒ exact marginal** (Koller–Friedman Thm 10.4 / Lauritzen–Spiegelhalter): summing the
    clique-tree measure over every variable outside the root clique returns the root belief.  Since any
    clique can be taken as the root and the measure is invariant under every message
    (`C02_update_preserves_measure`), after calibration *every* clique belief is the marginal of the
    original factor product. -/
theorem C02_calibrated_tree_exact (K : Var → Nat) (b0 : Asg → Rat) : ∀ (L : List Leaf), Peelable K b0 L →
    sumOut K (L.flatMap Leaf.priv) (treeMeasure b0 L) = b0 := by
  intro L
  induction L with
  | nil => intro _; rfl
  | cons c rest ih =>
    intro ⟨h0, hrest, hmu, hcal, hne, hP⟩
    have step : sumOut K c.priv (treeMeasure b0 (c :: rest)) = treeMeasure b0 rest := funext fun a =>
      sumOut_mul_div_cancel K c.priv _ c.β c.μ (treeMeasure_indep b0 c.priv h0 rest hrest) hmu a (hcal a) (hne a)
    rw [List.flatMap_cons, sumOut_append, step]
    exact ih hP

/-- with the measure invariant: if the tree measure equals the product `F` of the model's factors on every
    assignment, the root belief is the exact marginal of `F` -/
theorem C02_calibrated_tree_marginal (K : Var → Nat) (b0 F : Asg → Rat) (L : List Leaf) (hP : Peelable K b0 L)
    (hF : ∀ a, F a = treeMeasure b0 L a) : sumOut K (L.flatMap Leaf.priv) F = b0 := by
  have : F = treeMeasure b0 L := funext hF
  rw [this]; exact C02_calibrated_tree_exact K b0 L hP

/-- non-vacuity: a root with one calibrated leaf over a private binary variable -/
example : Peelable (fun _ => 2) (fun _ => 1)
    [{ β := fun a => if a 1 = 0 then 1/4 else 3/4, μ := fun _ => 1, priv := [1] }] := by
  refine ⟨fun _ _ _ _ => rfl, (fun d hd => nomatch hd), fun _ _ _ _ => rfl, fun a => ?_, fun _ => one_ne_zero, trivial⟩
  show (1 / 4 : Rat) + (3 / 4 + 0) = 1
  norm_num

theorem treeMeasure_nonneg (b0 : Asg → Rat) (h0 : ∀ a, 0 ≤ b0 a) (L : List Leaf)
    (hL : ∀ d ∈ L, ∀ a, 0 ≤ d.β a ∧ 0 < d.μ a) (a : Asg) : 0 ≤ treeMeasure b0 L a := by
  induction L with
  | nil => exact h0 a
  | cons c rest ih =>
    obtain ⟨hb, hm⟩ := hL c List.mem_cons_self a
    exact mul_nonneg (ih fun d hd => hL d (List.mem_cons_of_mem _ hd)) (div_nonneg hb (le_of_lt hm))

/-- leaf-peeling order + running intersection + MAX-calibration, and positive cardinalities of the private
    variables; non-negative beliefs and positive sepset beliefs are hypotheses of
    `C02_max_calibrated_tree_exact`, not part of this predicate -/
def MaxPeelable (K : Var → Nat) (b0 : Asg → Rat) : List Leaf → Prop
  | [] => True
  | c :: rest =>
      IndepOf b0 c.priv ∧ (∀ d ∈ rest, IndepOf d.β c.priv ∧ IndepOf d.μ c.priv) ∧
      IndepOf c.μ c.priv ∧ (∀ a, maxOut K c.priv c.β a = c.μ a) ∧ (∀ v ∈ c.priv, 0 < K v) ∧
      MaxPeelable K b0 rest

/-- **max-calibrated tree ⇒ exact max-marginal**: maximising the clique-tree measure over every variable
    outside the root clique returns the root belief (the max-product analogue of
    `C02_calibrated_tree_exact`; what `max_calibrate` / `map_query` by belief propagation rely on) -/
theorem C02_max_calibrated_tree_exact (K : Var → Nat) (b0 : Asg → Rat) (h0 : ∀ a, 0 ≤ b0 a) : ∀ (L : List Leaf),
    (∀ d ∈ L, ∀ a, 0 ≤ d.β a ∧ 0 < d.μ a) → MaxPeelable K b0 L →
    maxOut K (L.flatMap Leaf.priv) (treeMeasure b0 L) = b0 := by
  intro L
  induction L with
  | nil => intro _ _; rfl
  | cons c rest ih =>
    intro hL ⟨hb0, hrest, hmu, hcal, _, hP⟩
    have hLr : ∀ d ∈ rest, ∀ a, 0 ≤ d.β a ∧ 0 < d.μ a := fun d hd => hL d (List.mem_cons_of_mem _ hd)
    have hc := hL c List.mem_cons_self
    have step : foldOut maxR K c.priv (treeMeasure b0 (c :: rest)) = treeMeasure b0 rest := funext fun a =>
      foldOut_mul_div_cancel maxLaw K c.priv _ c.β c.μ (treeMeasure_indep b0 c.priv hb0 rest hrest) hmu
        (fun b => div_nonneg (treeMeasure_nonneg b0 h0 rest hLr b) (le_of_lt (hc b).2)) a
        (by rw [← maxOut_eq_foldOut]; exact hcal a) (ne_of_gt (hc a).2)
    rw [maxOut_eq_foldOut, List.flatMap_cons, foldOut_append, step, ← maxOut_eq_foldOut]
    exact ih hLr hP

end PgmVerif
