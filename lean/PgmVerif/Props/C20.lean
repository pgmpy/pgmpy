/-
  Props/C20.lean — multivariate-normal algebra behind linear-Gaussian networks, over any field
  (Mathlib matrices).  The executable model (Model/Gauss.lean) computes with the same formulas
  on lists of rationals and validates its inverse on every call; no theorem here mentions it: it is tied
  to these identities by the correspondence runs only.
-/
import PgmVerif.Model.Generated
import Mathlib.LinearAlgebra.Matrix.SchurComplement
namespace PgmVerif
open Matrix

variable {n m : Type} [Fintype n] [DecidableEq n] [Fintype m] [DecidableEq m] {K : Type} [Field K]

/-- **structural equations ⇒ covariance**: with M = I − B invertible, Σ = M⁻ᵀ Ω M⁻¹ satisfies
    Mᵀ Σ M = Ω (the covariance of X = Bᵀ X + ε with Cov ε = Ω) -/
theorem C20_cov_fixed_point (M Ω : Matrix n n K) (hM : IsUnit M.det) :
    Mᵀ * ((M⁻¹)ᵀ * Ω * M⁻¹) * M = Ω := by
  rw [Matrix.mul_assoc Mᵀ, Matrix.nonsing_inv_mul_cancel_right _ _ hM, ← Matrix.mul_assoc, ← Matrix.transpose_mul,
    Matrix.nonsing_inv_mul M hM, Matrix.transpose_one, Matrix.one_mul]

/-- … and it is the only solution -/
theorem C20_cov_unique (M Ω S : Matrix n n K) (hM : IsUnit M.det) (hS : Mᵀ * S * M = Ω) :
    S = (M⁻¹)ᵀ * Ω * M⁻¹ := by
  rw [← hS, Matrix.mul_assoc (M⁻¹)ᵀ, Matrix.mul_nonsing_inv_cancel_right _ _ hM, ← Matrix.mul_assoc,
    ← Matrix.transpose_mul, Matrix.mul_nonsing_inv M hM, Matrix.transpose_one, Matrix.one_mul]

/-- **precision block**: for a covariance partitioned into blocks [[A, B], [C, D]] (missing block
    first) the top-left block of the precision matrix is the inverse of the Schur complement
    A − B D⁻¹ C built from the SUB-MATRICES -/
theorem C20_precision_block (A : Matrix m m K) (B : Matrix m n K) (C : Matrix n m K) (D : Matrix n n K)
    [Invertible D] [Invertible (A - B * ⅟D * C)] [Invertible (fromBlocks A B C D)] :
    (⅟(fromBlocks A B C D)).toBlocks₁₁ = ⅟(A - B * ⅟D * C) := by
  rw [Matrix.invOf_fromBlocks₂₂_eq, Matrix.toBlocks_fromBlocks₁₁]

/-- **conditional covariance is the Schur complement**: Σ_aa − Σ_ab Σ_bb⁻¹ Σ_ba is the inverse of
    the (a, a) block of the precision matrix -/
theorem C20_conditional_is_schur (A : Matrix m m K) (B : Matrix m n K) (C : Matrix n m K) (D : Matrix n n K)
    [Invertible D] [Invertible (A - B * ⅟D * C)] [Invertible (fromBlocks A B C D)] :
    (A - B * ⅟D * C) * (⅟(fromBlocks A B C D)).toBlocks₁₁ = 1 := by
  rw [C20_precision_block]
  exact mul_invOf_self _

/-- non-vacuity: an invertible 1×1 system meets the hypotheses of the covariance theorems -/
example : IsUnit (Matrix.det (!![2] : Matrix (Fin 1) (Fin 1) Rat)) := by
  rw [Matrix.det_fin_one_of]
  exact isUnit_iff_ne_zero.mpr two_ne_zero

/-- extraction tie: `to_joint_gaussian` rounds mean and covariance to 8 decimals — the perturbation bound that the
    correspondence check of `predict` allows for is derived from this literal -/
theorem C20_round_tie : Generated.lgRoundDecimals = some 8 := rfl

end PgmVerif
