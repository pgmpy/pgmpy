/-
  Props/C07.lean — laws of the samplers, given that every primitive draw has the law it is
  handed (numpy's generator is outside the proof).
-/
import PgmVerif.Proofs.Sample
namespace PgmVerif
open Factor

/-- **Gibbs kernel is local**: the full conditional of `v` given all other variables, computed
    from the whole joint, equals the normalised product of only those factors that mention `v`
    (what `GibbsSampling` builds its transition models from) -/
theorem C07_gibbs_kernel_local (K : Var → Nat) (fs : List Factor) (v : Var) (a : Asg) (x : Nat)
    (hne : jointDen (fs.filter (fun f => !f.scope.contains v)) a ≠ 0) :
    jointDen fs (upd a v x) / sumVar K v (jointDen fs) a
      = jointDen (fs.filter (fun f => f.scope.contains v)) (upd a v x)
        / sumVar K v (jointDen (fs.filter (fun f => f.scope.contains v))) a := by
  -- numerator `uses · rest` at `a[v := x]`, denominator `rest · Σ_v uses`; `rest` ignores `v` and cancels
  rw [sumVar_jointDen_split, jointDen_filter (fun f => f.scope.contains v) fs (upd a v x),
    mul_comm (jointDen (fs.filter fun f => f.scope.contains v) (upd a v x)),
    jointDen_upd_notin v _ (fun f hf => by simpa using (List.mem_filter.mp hf).2) a x,
    mul_div_mul_left _ _ hne]

/-- **the Gibbs kernel is a distribution**: the full conditional of `v` (any non-negative or signed weight function `g`,
    e.g. the product of the factors mentioning `v`), divided by its total over the states of `v`, sums to one -/
theorem C07_gibbs_kernel_normalised (K : Var → Nat) (g : Asg → Rat) (v : Var) (a : Asg)
    (hne : sumVar K v g a ≠ 0) :
    sumVar K v (fun b => g b / sumVar K v g a) a = 1 :=
  sumVar_div_self K g v a hne

/-- **likelihood weighting**: joint(row) = (Π over evidence variables of their CPD entry) ×
    (Π over sampled variables of their CPD entry); the first product is the weight the sampler
    attaches, the second the probability with which it proposes the row -/
theorem C07_lw_weight (cpds : List Factor) (isEv : Factor → Bool) (a : Asg) :
    jointDen cpds a = jointDen (cpds.filter isEv) a * jointDen (cpds.filter (fun f => !isEv f)) a :=
  jointDen_filter isEv cpds a

/-- a row in which some variable takes a state of conditional probability zero has joint mass
    zero: forward / rejection sampling never produce it -/
theorem C07_zero_mass (cpds : List Factor) (c : Factor) (hc : c ∈ cpds) (a : Asg) (h0 : c.den a = 0) :
    jointDen cpds a = 0 :=
  List.prod_eq_zero (List.mem_map.mpr ⟨c, hc, h0⟩)

/-- one step of ancestral sampling: extending a partial row by a draw from the next CPD column
    multiplies its mass by that CPD entry (so after all steps the mass is the joint) -/
theorem C07_forward_step (done : List Factor) (c : Factor) (a : Asg) :
    jointDen (done ++ [c]) a = jointDen done a * c.den a := by
  rw [jointDen_append, jointDen_cons, jointDen_nil, mul_one]

/-- **forward sampling follows the joint**: composing the per-variable draws in a topological order
    gives a law whose outcomes are exactly the rows that assign each variable one of its states,
    each exactly once, with mass Π_i CPD_i(row) = joint(row) -/
theorem C07_forward_law (K : Var → Nat) (L : List (Var × Factor)) (a0 : Asg) (hL : Topo L) :
    (∀ o ∈ forwardLaw K L [(a0, 1)], o.2 = jointDen (L.map Prod.snd) o.1 ∧
        ∀ w, w ∉ L.map Prod.fst → o.1 w = a0 w) ∧
    (∀ b : Asg, (∀ w, w ∉ L.map Prod.fst → b w = a0 w) → (∀ w ∈ L.map Prod.fst, b w < K w) →
        (b, jointDen (L.map Prod.snd) b) ∈ forwardLaw K L [(a0, 1)]) ∧
    ((forwardLaw K L [(a0, 1)]).map Prod.fst).Nodup := by
  refine ⟨fun o ho => ?_, fun b hb hK => ?_, forwardLaw_nodup K L a0 hL⟩
  · obtain ⟨_, h0, hag, _, hm⟩ := (mem_forwardLaw K L _ hL o).mp ho
    rw [List.mem_singleton.mp h0] at hag hm
    exact ⟨hm.trans (one_mul _), hag⟩
  · exact (mem_forwardLaw K L _ hL _).mpr ⟨_, List.mem_singleton_self _, hb, hK, (one_mul _).symm⟩

/-- **rejection sampling**: every accepted outcome is a forward outcome that agrees with the evidence
    (the converse is the definition of `filter`) and carries its joint mass — so the accepted rows
    follow joint(row)/P(evidence), the posterior, and always agree with the evidence -/
theorem C07_rejection_law (K : Var → Nat) (L : List (Var × Factor)) (a0 : Asg) (hL : Topo L)
    (ev : List (Var × Nat)) (o : Asg × Rat)
    (ho : o ∈ (forwardLaw K L [(a0, 1)]).filter (fun o => ev.all (fun e => o.1 e.1 == e.2))) :
    o.2 = jointDen (L.map Prod.snd) o.1 ∧ ∀ e ∈ ev, o.1 e.1 = e.2 := by
  obtain ⟨h1, h2⟩ := List.mem_filter.mp ho
  refine ⟨((C07_forward_law K L a0 hL).1 o h1).1, ?_⟩
  intro e he
  have := List.all_eq_true.mp h2 e he
  simpa using this

/-- **likelihood weighting, whole sampler**: every weighted sample carries the evidence values, its
    weight is the product of the evidence variables' CPD entries given the sampled parents, and
    proposal mass × weight = joint(row) -/
theorem C07_lw_law (K : Var → Nat) (ev : Var → Option Nat) (L : List (Var × Factor)) (a0 : Asg) (hL : Topo L)
    (o : Asg × Rat × Rat) (ho : o ∈ lwLaw K ev L [(a0, 1, 1)]) :
    o.2.2 = jointDen ((L.filter (fun p => (ev p.1).isSome)).map Prod.snd) o.1 ∧
    o.2.1 * o.2.2 = jointDen (L.map Prod.snd) o.1 ∧
    (∀ p ∈ L, ∀ e, ev p.1 = some e → o.1 p.1 = e) := by
  obtain ⟨_, h0, hw, hm, _, hev⟩ := lwLaw_spec K ev L _ hL o ho
  rw [List.mem_singleton.mp h0] at hw hm
  have hw' := hw.trans (one_mul _)
  refine ⟨hw', ?_, hev⟩
  rw [hw', hm.trans (one_mul _), jointDen_map_filter Prod.snd (fun p => (ev p.1).isSome) L o.1, mul_comm]

/-- non-vacuity: a two-node network A → B in topological order -/
example : Topo [(0, Factor.mk [0] [2] #[1/2, 1/2]), (1, Factor.mk [1, 0] [2, 2] #[1/4, 3/4, 3/4, 1/4])] := by
  refine ⟨?_, ?_, trivial⟩
  · intro q hq
    simp only [List.mem_singleton] at hq
    subst hq
    decide
  · intro q hq; cases hq

example : (forwardLaw (fun _ => 2) [(0, Factor.mk [0] [2] #[1/2, 1/2])] [((fun _ => 0), 1)]).length = 2 := rfl

example : jointDen [Factor.mk [0] [2] #[1/2, 1/2]] (fun _ => 0) = 1/2 := by
  rw [jointDen_cons, jointDen_nil, mul_one]; rfl

/-- **sampling around supplied values** (`partial_samples`, `do`, fixed evidence): with the supplied variables held at their values,
    every outcome carries exactly those values, and its mass is the product of the CPD entries of the variables that were *drawn*
    (given their parents' values in the same row - supplied or drawn) -/
theorem C07_partial_law (K : Var → Nat) (given : Var → Option Nat) (L : List (Var × Factor)) (a0 : Asg) (hL : Topo L)
    (o : Asg × Rat × Rat) (ho : o ∈ lwLaw K given L [(a0, 1, 1)]) :
    o.2.1 = jointDen ((L.filter (fun p => !(given p.1).isSome)).map Prod.snd) o.1 ∧
    (∀ p ∈ L, ∀ e, given p.1 = some e → o.1 p.1 = e) := by
  obtain ⟨_, h0, _, hm, _, hev⟩ := lwLaw_spec K given L _ hL o ho
  rw [List.mem_singleton.mp h0] at hm
  exact ⟨hm.trans (one_mul _), hev⟩

end PgmVerif
