/-
  Props/C09.lean — table-layout round trips of the file formats.
-/
import PgmVerif.Model.IO
import PgmVerif.Model.Generated
import PgmVerif.Proofs.Layout
import Mathlib.Data.Rat.Floor
namespace PgmVerif

/-- **entry position**: in the column-major layout entry (i, j) is at position j·rows + i -/
theorem C09_colmajor_entry (r c : Nat) (t : Nat → Nat → Rat) (i j : Nat) (hi : i < r) (hj : j < c) :
    (flattenF r c t).getD (j * r + i) 0 = t i j := by
  rw [flattenF, List.flatMap_def,
    flatten_getD 0 r _ (List.forall_mem_map.mpr fun _ _ => by rw [List.length_map, List.length_range]) j i hi]
  simp only [List.getD_eq_getElem?_getD, List.getElem?_map, List.getElem?_range hj, List.getElem?_range hi,
    Option.map_some, Option.getD_some]

/-- **round trip**: reshaping the column-major flattening gives back the table, for every shape -/
theorem C09_colmajor_roundtrip (r c : Nat) (t : Nat → Nat → Rat) (i j : Nat) (hi : i < r) (hj : j < c) :
    unflattenF r (flattenF r c t) i j = t i j := by
  unfold unflattenF
  exact C09_colmajor_entry r c t i j hi hj

/-- **UAI numbering is a bijection**: positions in a duplicate-free sorted list determine the
    variable, and naming the i-th variable `var_i` inverts the numbering -/
theorem C09_uai_index_bijection (sorted : List Nat) (hn : sorted.Nodup) :
    (∀ v ∈ sorted, positionOf sorted v < sorted.length ∧ sorted.getD (positionOf sorted v) 0 = v) ∧
    (∀ i, (h : i < sorted.length) → positionOf sorted (sorted[i]) = i) := by
  constructor
  · intro v hv
    unfold positionOf
    have hlt := List.idxOf_lt_length_iff.mpr hv
    refine ⟨hlt, ?_⟩
    rw [List.getD_eq_getElem?_getD, List.getElem?_eq_getElem hlt]
    simp
  · intro i h
    unfold positionOf
    exact hn.idxOf_getElem i h

theorem round4_eq (x : Rat) : round4 x = (round (x * 10000) : Rat) / 10000 := by
  rw [round_eq]; rfl

theorem abs_round_mul_div_sub_le {s : Rat} (hs : 0 < s) (x : Rat) :
    |(round (x * s) : Rat) / s - x| ≤ 1 / 2 / s := by
  rw [div_sub' hs.ne', abs_div, abs_of_pos hs, abs_sub_comm, mul_comm s x]
  exact div_le_div_of_nonneg_right (abs_sub_round (x * s)) hs.le

/-- **NET's four decimals**: rounding moves a value by at most 5·10⁻⁵ -/
theorem C09_round4_bound (x : Rat) : |round4 x - x| ≤ 1 / 20000 := by
  rw [round4_eq]
  exact (abs_round_mul_div_sub_le (by norm_num) x).trans (by norm_num)

/-- **a second NET round trip is exact**: a value that already has four decimals is printed as itself, so
    write -> read -> write reproduces the first file's numbers exactly (only the first write rounds) -/
theorem C09_round4_idempotent (x : Rat) : round4 (round4 x) = round4 x := by
  rw [round4_eq (round4 x), round4_eq x, div_mul_cancel₀ _ (by norm_num), round_intCast]

example : flattenF 2 2 (fun i j => (i : Rat) + 10 * j) = [0, 1, 10, 11] := by
  -- the four entries as `flattenF` computes them, the first column first
  show [((0 : Nat) : Rat) + 10 * (0 : Nat), (1 : Nat) + 10 * (0 : Nat), (0 : Nat) + 10 * (1 : Nat),
    (1 : Nat) + 10 * (1 : Nat)] = _
  norm_num

/-- extraction tie: NETWriter prints tables with the 4 decimals that `round4` / `C09_round4_bound` assume -/
theorem C09_net_decimals_tie : Generated.netDecimals = some 4 := rfl

end PgmVerif
