/-
  Props/C19.lean — the stratified contingency-table statistic, for an arbitrary cell function.
-/
import PgmVerif.Model.CITest
import PgmVerif.Model.Generated
import Mathlib.Algebra.Order.BigOperators.Group.List
import Mathlib.Tactic.Ring
import Mathlib.Tactic.NormNum
namespace PgmVerif

theorem sum_map_sum_map {α β : Type} (l1 : List α) (l2 : List β) (f : α → β → Rat) :
    (l1.map (fun i => (l2.map (fun j => f i j)).sum)).sum
      = (l2.map (fun j => (l1.map (fun i => f i j)).sum)).sum := by
  induction l1 with
  | nil => simp
  | cons a l ih => simp only [List.map_cons, List.sum_cons, ih, List.sum_map_add]

theorem cnt_swapXY (rows : List CIRow) (q : CIRow → Bool) :
    cnt (swapXY rows) q = cnt rows (fun r => q { x := r.y, y := r.x, s := r.s }) := List.countP_map ..

theorem obs_swap (rows : List CIRow) (i j : Nat) : obs (swapXY rows) j i = obs rows i j := by
  simp only [obs, cnt_swapXY, Bool.and_comm]

theorem rowTot_swap (rows : List CIRow) (j : Nat) : rowTot (swapXY rows) j = colTot rows j := cnt_swapXY ..

theorem colTot_swap (rows : List CIRow) (i : Nat) : colTot (swapXY rows) i = rowTot rows i := cnt_swapXY ..

theorem expected_swap (rows : List CIRow) (i j : Nat) :
    expectedAt (swapXY rows) j i = expectedAt rows i j := by
  unfold expectedAt
  rw [rowTot_swap, colTot_swap]
  simp only [swapXY, List.length_map]
  ring

theorem levels_swap (k : Nat) (rows : List CIRow) :
    levelsX k (swapXY rows) = levelsY k rows ∧ levelsY k (swapXY rows) = levelsX k rows := by
  unfold levelsX levelsY
  constructor
  · congr 1; funext i; rw [rowTot_swap]
  · congr 1; funext i; rw [colTot_swap]

theorem tableStat_swap (cell : Rat → Rat → Rat) (kx ky : Nat) (rows : List CIRow) :
    tableStat cell ky kx (swapXY rows) = tableStat cell kx ky rows := by
  unfold tableStat
  simp only [(levels_swap ky rows).1, (levels_swap kx rows).2]
  rw [sum_map_sum_map]
  apply congrArg
  apply List.map_congr_left
  intro i _
  apply congrArg
  apply List.map_congr_left
  intro j _
  rw [obs_swap, expected_swap, Bool.and_comm]

theorem tableDof_swap (kx ky : Nat) (rows : List CIRow) :
    tableDof ky kx (swapXY rows) = tableDof kx ky rows := by
  unfold tableDof
  rw [(levels_swap ky rows).1, (levels_swap kx rows).2, Nat.mul_comm]

theorem filter_swap (rows : List CIRow) (s : Nat) :
    (swapXY rows).filter (fun r => r.s == s) = swapXY (rows.filter (fun r => r.s == s)) := by
  unfold swapXY
  rw [List.filter_map]
  rfl

theorem strata_map_congr {β : Type} (ks : Nat) (r1 r2 : List CIRow) (g g' : List CIRow → β)
    (he : ∀ s, (r1.filter (fun r => r.s == s)).isEmpty = (r2.filter (fun r => r.s == s)).isEmpty)
    (hg : ∀ s, g (r1.filter (fun r => r.s == s)) = g' (r2.filter (fun r => r.s == s))) :
    (strata ks r1).map g = (strata ks r2).map g' := by
  unfold strata
  simp only [List.filter_map, List.map_map, Function.comp_def, he, hg]

/-- **symmetry in X and Y**: statistic and degrees of freedom do not change when the roles of the
    two tested variables are exchanged — for every cell function, i.e. every λ -/
theorem C19_symmetric (cell : Rat → Rat → Rat) (kx ky ks : Nat) (rows : List CIRow) :
    stratified cell ky kx ks (swapXY rows) = stratified cell kx ky ks rows := by
  have he : ∀ s, ((swapXY rows).filter (fun r => r.s == s)).isEmpty = (rows.filter (fun r => r.s == s)).isEmpty :=
    fun s => by rw [filter_swap, swapXY, List.isEmpty_map]
  simp only [stratified]
  rw [strata_map_congr ks _ rows _ (tableStat cell kx ky) he (fun s => by rw [filter_swap, tableStat_swap]),
    strata_map_congr ks _ rows _ (tableDof kx ky) he (fun s => by rw [filter_swap, tableDof_swap])]

theorem tableStat_perm (cell : Rat → Rat → Rat) (kx ky : Nat) (r1 r2 : List CIRow) (p : r1.Perm r2) :
    tableStat cell kx ky r1 = tableStat cell kx ky r2 ∧ tableDof kx ky r1 = tableDof kx ky r2 := by
  have ho : obs r1 = obs r2 := funext₂ fun i j => p.countP_eq _
  have hr : rowTot r1 = rowTot r2 := funext fun i => p.countP_eq _
  have hc : colTot r1 = colTot r2 := funext fun j => p.countP_eq _
  unfold tableStat tableDof levelsX levelsY expectedAt
  rw [ho, hr, hc, p.length_eq]
  exact ⟨rfl, rfl⟩

/-- **row order is irrelevant**: any permutation of the data rows gives the same statistic and the
    same degrees of freedom -/
theorem C19_row_perm (cell : Rat → Rat → Rat) (kx ky ks : Nat) (r1 r2 : List CIRow) (p : r1.Perm r2) :
    stratified cell kx ky ks r1 = stratified cell kx ky ks r2 := by
  simp only [stratified]
  rw [strata_map_congr ks r1 r2 _ _ (fun s => (p.filter _).isEmpty_eq)
      (fun s => (tableStat_perm cell kx ky _ _ (p.filter _)).1),
    strata_map_congr ks r1 r2 _ _ (fun s => (p.filter _).isEmpty_eq)
      (fun s => (tableStat_perm cell kx ky _ _ (p.filter _)).2)]

theorem yates_of_le {o e : Rat} (h : o ≤ e) : yates o e = o + min (e - o) (1/2) := by
  unfold yates
  simp only [if_neg (not_lt.mpr (sub_nonneg.mpr h)), ← min_def_lt]

theorem yates_of_gt {o e : Rat} (h : e < o) : yates o e = o - min (o - e) (1/2) := by
  unfold yates
  simp only [if_pos (sub_neg.mpr h), ← min_def_lt, neg_sub]

theorem yates_self (e : Rat) : yates e e = e := by
  rw [yates_of_le le_rfl, sub_self, min_eq_left (by norm_num), add_zero]

/-- **zero on independence**: if every observed count equals its expected count in every stratum
    and the cell function vanishes on the diagonal (true for the whole power-divergence
    family), the statistic is zero -/
theorem C19_zero_on_independent (cell : Rat → Rat → Rat) (hcell : ∀ e, cell e e = 0) (kx ky ks : Nat)
    (rows : List CIRow)
    (hind : ∀ s ∈ strata ks rows, ∀ i j, ((obs s i j : Nat) : Rat) = expectedAt s i j) :
    (stratified cell kx ky ks rows).1 = 0 := by
  have : ∀ s ∈ strata ks rows, tableStat cell kx ky s = 0 := fun s hs => by
    simp only [tableStat, hind s hs, yates_self, ite_self, hcell, List.sum_map_zero]
  simp only [stratified, List.map_congr_left this, List.sum_map_zero]

theorem expectedAt_nonneg (rows : List CIRow) (i j : Nat) : 0 ≤ expectedAt rows i j :=
  div_nonneg (mul_nonneg (Nat.cast_nonneg _) (Nat.cast_nonneg _)) (Nat.cast_nonneg _)

/-- one Pearson cell: (O − E)² / E is non-negative for a non-negative expected count, and vanishes for E > 0 exactly when O = E -/
theorem C19_pearson_cell (o e : Rat) (he : 0 ≤ e) :
    0 ≤ cellPearson o e ∧ (0 < e → (cellPearson o e = 0 ↔ o = e)) := by
  unfold cellPearson
  refine ⟨div_nonneg (mul_self_nonneg _) he, fun hpos => ?_⟩
  rw [div_eq_zero_iff, mul_self_eq_zero, sub_eq_zero, or_iff_left hpos.ne']

/-- **the Pearson chi-square statistic is never negative**: for every data set, every number of strata and with or without Yates'
    correction (the correction only changes the observed value that enters the cell) -/
theorem C19_pearson_stat_nonneg (kx ky ks : Nat) (rows : List CIRow) :
    0 ≤ (stratified cellPearson kx ky ks rows).1 := by
  simp only [stratified]
  refine List.sum_nonneg (List.forall_mem_map.mpr fun s _ => ?_)
  refine List.sum_nonneg (List.forall_mem_map.mpr fun i _ => ?_)
  refine List.sum_nonneg (List.forall_mem_map.mpr fun j _ => ?_)
  exact (C19_pearson_cell _ _ (expectedAt_nonneg s i j)).1

/-- **Yates' correction moves the observed count towards the expected one and never past it** (so a corrected
    Pearson cell is never larger than the uncorrected one, and a table with O = E stays at statistic 0) -/
theorem C19_yates_between (o e : Rat) :
    (o ≤ e → o ≤ yates o e ∧ yates o e ≤ e) ∧ (e ≤ o → e ≤ yates o e ∧ yates o e ≤ o) := by
  have hm : ∀ d : Rat, 0 ≤ d → 0 ≤ min d (1/2) := fun d hd => le_min hd (by norm_num)
  constructor <;> intro h
  · rw [yates_of_le h]
    exact ⟨le_add_of_nonneg_right (hm _ (sub_nonneg.mpr h)), le_sub_iff_add_le'.mp (min_le_left _ _)⟩
  · rcases h.eq_or_lt with rfl | h
    · rw [yates_self]; exact ⟨le_rfl, le_rfl⟩
    · rw [yates_of_gt h]
      exact ⟨le_sub_comm.mp (min_le_left _ _), sub_le_self _ (hm _ (sub_nonneg.mpr h.le))⟩

/-- extraction tie: the named wrappers hand the documented λ to the power-divergence test -/
theorem C19_lambda_tie : Generated.ciLambdaTable =
    [("chi_square", "pearson"), ("g_sq", "log-likelihood"), ("log_likelihood", "log-likelihood"),
     ("modified_log_likelihood", "mod-log-likelihood")] := rfl

example : cellPearson 3 3 = 0 ∧ cellNeyman 3 3 = 0 := by
  simp only [cellPearson, cellNeyman, sub_self, zero_mul, zero_div, and_self]

end PgmVerif
