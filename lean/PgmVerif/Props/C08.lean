/-
  Props/C08.lean — d-separation: the saturation used by the model of `active_trail_nodes`
  and `_get_ancestors_of` computes exactly the least set closed under the traversal rules, which is
  the textbook active-trail definition; d-connection is symmetric.
-/
import Mathlib.Data.List.ProdSigma
import PgmVerif.Proofs.DSepSym
namespace PgmVerif
open DG

theorem C08_saturate_closed {α : Type} [DecidableEq α] (next : List α → List α) (U : List α)
    (hU : ∀ S, (∀ x, x ∈ S → x ∈ U) → ∀ x, x ∈ next S → x ∈ U)
    (fuel : Nat) (S : List α) (hS : ∀ x, x ∈ S → x ∈ U) (hf : U.length ≤ fuel) :
    Closed next (saturate next fuel S) :=
  saturate_closed next U hU fuel S hS (Nat.le_trans (missing_le U S) hf)

theorem C08_saturate_sound {α : Type} [DecidableEq α] (step : α → List α) (S0 : List α) (fuel : Nat) (x : α)
    (hx : x ∈ saturate (fun T => T.flatMap step) fuel S0) : Gen step S0 x :=
  saturate_sound step S0 fuel S0 (fun _ hy => Gen.base hy) x hx

/-- **the reachability computed for `active_trail_nodes` is exactly the least set of
    (node, direction) states containing (start, up) and closed under the four traversal
    rules** — for every graph, observed set and start node -/
theorem C08_reach_exact (g : DG) (hg : g.WFG) (obs : List Var) (x : Var) (hx : x ∈ g.nodes) (s : St) :
    s ∈ g.reach obs x ↔ Gen (g.trailNext obs (g.ancestorsOf obs)) [(x, true)] s := by
  -- every traversal step follows an edge, so it lands among the 2·|nodes| states over the nodes of the graph
  refine saturate_exact_range _ (g.nodes ×ˢ [true, false]) _ _ (fun y z hz => ?_) ?_ s
  · have hz2 : z.2 ∈ [true, false] := by cases z.2 <;> decide
    rcases ((mem_trailNext g obs _ y.1 z.1 y.2 z.2 []).mp hz).2 with ⟨_, h⟩ | ⟨_, h⟩
    · exact List.mem_product.mpr ⟨(hg _ h).1, hz2⟩
    · exact List.mem_product.mpr ⟨(hg _ h).2, hz2⟩
  · rw [List.length_product]
    simp only [List.length_cons, List.length_nil]
    omega

/-- **d-separation answers match the path-based definition.**  For an acyclic graph and an
    unobserved start node `x`: the state `(y, d)` is reached by the traversal of
    `active_trail_nodes` iff there is a trail x = n₀ — n₁ — … — n_k = y (consecutive nodes adjacent,
    nodes may repeat) on which every interior non-collider is unobserved and every interior
    collider is an ancestor-or-self of an observed node (`C08_ancestors_exact`), `d` recording the
    direction of the last edge.  `ActiveRev` is that definition on the reversed node list. -/
theorem C08_reach_iff_active_trail (g : DG) (hg : g.WFG) (hac : Acyclic g.edges) (obs : List Var)
    (x : Var) (hx : x ∈ g.nodes) (hxo : x ∉ obs) (y : Var) (d : Bool) :
    (y, d) ∈ g.reach obs x ↔
      ∃ l : List Var, l.head? = some y ∧ l.getLast? = some x ∧
        DSep.ActiveRev g obs (g.ancestorsOf obs) l ∧ DSep.ArrDir g l d := by
  rw [C08_reach_exact g hg obs x hx (y, d)]
  exact ⟨gen_to_trail g hac obs _ x (y, d), fun ⟨l, hh, hl, hact, harr⟩ =>
    trail_to_gen g hac obs _ x hxo l y d hh hl hact harr⟩

/-- `_get_ancestors_of(zs)` = the nodes from which some member of `zs` is reachable along
    edges (reflexive-transitive closure of "parent of"), for every graph -/
theorem C08_ancestors_exact (g : DG) (hg : g.WFG) (zs : List Var) (hz : ∀ z ∈ zs, z ∈ g.nodes) (v : Var) :
    v ∈ g.ancestorsOf zs ↔ Gen g.parents zs v := by
  unfold DG.ancestorsOf
  rw [saturate_exact_range g.parents g.nodes _ _
    (fun y x hx => (hg _ ((g.mem_parents x y).mp hx)).1) (Nat.le_succ _), gen_iff_reflTransGen, gen_iff_reflTransGen]
  simp only [List.mem_eraseDups]

/-- Markov blanket = parents, children and the children's other parents -/
theorem C08_blanket_spec (g : DG) (v w : Var) :
    w ∈ g.markovBlanket v ↔
      w ≠ v ∧ (w ∈ g.children v ∨ w ∈ g.parents v ∨ ∃ c ∈ g.children v, w ∈ g.parents c) := by
  unfold DG.markovBlanket
  simp only [List.mem_filter, List.mem_eraseDups, List.mem_append, List.mem_flatMap, bne_iff_ne, ne_eq]
  rw [and_comm, or_assoc]

example : (DG.mk [0, 1, 2] [(0, 2), (1, 2)]).WFG ∧ 0 ∈ (DG.mk [0, 1, 2] [(0, 2), (1, 2)]).nodes := by
  unfold DG.WFG
  decide

theorem dconn_one_way (g : DG) (hg : g.WFG) (hac : Acyclic g.edges) (obs : List Var)
    (x y : Var) (hx : x ∈ g.nodes) (hy : y ∈ g.nodes) (hxo : x ∉ obs) (hyo : y ∉ obs)
    (h : ∃ d, (y, d) ∈ g.reach obs x) : ∃ d, (x, d) ∈ g.reach obs y := by
  obtain ⟨d, h⟩ := h
  obtain ⟨l, hh, hl, hact, _⟩ := (C08_reach_iff_active_trail g hg hac obs x hx hxo y d).mp h
  have hne : l ≠ [] := by intro e; subst e; simp at hh
  have hrev := DSep.activeRev_reverse g obs (g.ancestorsOf obs) l hact
  obtain ⟨d', hd'⟩ := DSep.arrDir_exists g obs (g.ancestorsOf obs) l.reverse (by simpa using hne) hrev
  exact ⟨d', (C08_reach_iff_active_trail g hg hac obs y hy hyo x d').mpr
    ⟨l.reverse, by simpa [List.head?_reverse] using hl, by simpa [List.getLast?_reverse] using hh, hrev, hd'⟩⟩

/-- **d-connection is symmetric**: for unobserved nodes `x`, `y` of any DAG and any observed set, the traversal
    of `active_trail_nodes` started at `x` reaches `y` iff started at `y` it reaches `x` (an active trail
    read backwards is active, `Proofs/DSepSym.lean`) -/
theorem C08_dconnection_symmetric (g : DG) (hg : g.WFG) (hac : Acyclic g.edges) (obs : List Var)
    (x y : Var) (hx : x ∈ g.nodes) (hy : y ∈ g.nodes) (hxo : x ∉ obs) (hyo : y ∉ obs) :
    (∃ d, (y, d) ∈ g.reach obs x) ↔ (∃ d, (x, d) ∈ g.reach obs y) :=
  ⟨dconn_one_way g hg hac obs x y hx hy hxo hyo, dconn_one_way g hg hac obs y x hy hx hyo hxo⟩

end PgmVerif
