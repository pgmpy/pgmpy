/-
  Props/C14.lean — conversions: factor-to-clique bookkeeping, the moral graph, and triangulation (the graph
  filled in by any elimination order is chordal).
-/
import PgmVerif.Proofs.VE
import PgmVerif.Proofs.Elim
import PgmVerif.Proofs.Acyclic
namespace PgmVerif
open Factor

/-- product over the factors that the bookkeeping assigns to clique `c` -/
def cliqueProd (l : List (Factor × Nat)) (a : Asg) (c : Nat) : Rat :=
  ((l.filter (fun p => p.2 = c)).map (fun p => p.1.den a)).prod

theorem cliqueProd_cons (p : Factor × Nat) (l : List (Factor × Nat)) (a : Asg) (c : Nat) :
    cliqueProd (p :: l) a c = (if p.2 = c then p.1.den a else 1) * cliqueProd l a c := by
  unfold cliqueProd
  by_cases e : p.2 = c
  · rw [List.filter_cons_of_pos (by simpa using e), List.map_cons, List.prod_cons, if_pos e]
  · rw [List.filter_cons_of_neg (by simpa using e), if_neg e, one_mul]

/-- **each factor is used exactly once**: if every factor *position* is assigned to one clique
    index below `m`, the product of the clique potentials (each the product of its assigned
    factors) is the product of all factors — also when several factors are equal -/
theorem C14_each_factor_once (m : Nat) : ∀ (l : List (Factor × Nat)), (∀ p ∈ l, p.2 < m) → ∀ a : Asg,
    ((List.range m).map (cliqueProd l a)).prod = jointDen (l.map (·.1)) a := by
  intro l h a
  rw [prod_map_range]
  induction l with
  | nil => exact Finset.prod_eq_one fun _ _ => rfl
  | cons p l ih =>
    rw [List.map_cons, jointDen_cons, ← ih fun q hq => h q (List.mem_cons_of_mem _ hq),
      Finset.prod_congr rfl fun c _ => cliqueProd_cons p l a c, Finset.prod_mul_distrib, Finset.prod_ite_eq,
      if_pos (Finset.mem_range.mpr (h p List.mem_cons_self))]

theorem DG.mem_moralEdges (g : DG) (u v : Var) :
    (u, v) ∈ g.moralEdges ↔ ((u, v) ∈ g.edges ∧ u < v) ∨ ((v, u) ∈ g.edges ∧ ¬ v < u) ∨
      ∃ c ∈ g.nodes, u ∈ g.parents c ∧ v ∈ g.parents c ∧ u < v := by
  unfold DG.moralEdges
  rw [List.mem_eraseDups, List.mem_append, ← or_assoc]
  refine or_congr ⟨?_, ?_⟩ ⟨?_, ?_⟩
  · intro h
    obtain ⟨⟨a, b⟩, hab, h⟩ := List.mem_map.mp h
    split at h <;> cases h
    · next hlt => exact .inl ⟨hab, hlt⟩
    · next hlt => exact .inr ⟨hab, hlt⟩
  · rintro (⟨h, hlt⟩ | ⟨h, hlt⟩)
    · exact List.mem_map.mpr ⟨(u, v), h, if_pos hlt⟩
    · exact List.mem_map.mpr ⟨(v, u), h, if_neg hlt⟩
  · intro h
    obtain ⟨c, hc, h⟩ := List.mem_flatMap.mp h
    obtain ⟨p, hp, h⟩ := List.mem_flatMap.mp h
    obtain ⟨q, hq, h⟩ := List.mem_filterMap.mp h
    split at h <;> cases h
    next hlt => exact ⟨c, hc, hp, hq, hlt⟩
  · rintro ⟨c, hc, hp, hq, hlt⟩
    exact List.mem_flatMap.mpr ⟨c, hc, List.mem_flatMap.mpr ⟨u, hp, List.mem_filterMap.mpr ⟨v, hq, if_pos hlt⟩⟩⟩

/-- **moral graph**: every CPD family (a node with its parents) is a clique of the moral graph,
    so every factor of the converted network fits the graph -/
theorem C14_moral_covers_family (g : DG) (c : Var) (hc : c ∈ g.nodes) (u v : Var)
    (hu : u = c ∨ u ∈ g.parents c) (hv : v = c ∨ v ∈ g.parents c) (hlt : u < v) :
    (u, v) ∈ g.moralEdges := by
  rw [g.mem_moralEdges]
  rcases hu with rfl | hu <;> rcases hv with rfl | hv
  · exact absurd hlt (Nat.lt_irrefl _)
  · exact .inr (.inl ⟨(g.mem_parents v u).mp hv, Nat.lt_asymm hlt⟩)
  · exact .inl ⟨(g.mem_parents u v).mp hu, hlt⟩
  · exact .inr (.inr ⟨c, hc, hu, hv, hlt⟩)

/-- **moralisation adds nothing else**: an edge of the moral graph is an edge of the DAG (in one of
    the two directions) or joins two parents of a common child -/
theorem C14_moral_only_family (g : DG) (u v : Var) (h : (u, v) ∈ g.moralEdges) :
    (u, v) ∈ g.edges ∨ (v, u) ∈ g.edges ∨
      ∃ c ∈ g.nodes, u ∈ g.parents c ∧ v ∈ g.parents c ∧ u < v :=
  ((g.mem_moralEdges u v).mp h).imp And.left (Or.imp_left And.left)

/-- BN → MN keeps the list of factors, so the joint (and Z = Σ joint) is unchanged whatever
    order the factors are stored in -/
theorem C14_bn_to_mn_measure (cpds factors : List Factor) (h : factors.Perm cpds) (a : Asg) :
    jointDen factors a = jointDen cpds a :=
  jointDen_perm h a

/-- **every elimination order triangulates**: in the graph `g` + the fill-in edges that the model of
    `triangulate(order=…)` / the heuristics' deletion loop produces, the order itself is a perfect elimination
    ordering — whenever `order = pre ++ v :: post`, any two vertices of `post` adjacent to `v` are adjacent to each
    other.  (Existence of a perfect elimination ordering is equivalent to chordality — Fulkerson–Gross; the
    executable `isChordal` validates each implementation output per case.) -/
theorem C14_elimination_is_perfect (g : UG) (pre : List Var) (v : Var) (post : List Var)
    (hnd : (pre ++ v :: post).Nodup) (hin : ∀ w ∈ pre ++ v :: post, w ∈ g.nodes)
    (a b : Var) (ha : a ∈ post) (hb : b ∈ post) (hab : a ≠ b)
    (hva : UG.AdjE (g.edges ++ g.eliminate (pre ++ v :: post)) v a)
    (hvb : UG.AdjE (g.edges ++ g.eliminate (pre ++ v :: post)) v b) :
    UG.AdjE (g.edges ++ g.eliminate (pre ++ v :: post)) a b :=
  ((UG.peo_eliminate g _ hnd hin).of_append pre).1 a ha b hb hab hva hvb

/-- **the graph filled in by any elimination order is chordal**: with `E = g.edges ++ g.eliminate order` (what
    `triangulate` returns), every cycle `f 0, …, f (n-1), f 0` of length `n ≥ 4` on distinct eliminated vertices has a chord —
    two positions that are not neighbours on the cycle and are adjacent in `E`.  (Perfect elimination ordering ⇒ chordal, the
    direction of Fulkerson–Gross that the junction-tree construction relies on, applied to `C14_elimination_is_perfect`.) -/
theorem C14_filled_graph_chordal (g : UG) (order : List Var) (hnd : order.Nodup) (hin : ∀ w ∈ order, w ∈ g.nodes)
    (f : Nat → Var) (n : Nat) (hn : 4 ≤ n)
    (hc : UG.Cycle (UG.AdjE (g.edges ++ g.eliminate order)) f n) (hmem : ∀ i, i < n → f i ∈ order) :
    UG.HasChord (UG.AdjE (g.edges ++ g.eliminate order)) f n :=
  UG.peo_cycle_has_chord _ (fun _ _ h => h.symm) order (UG.peo_eliminate g order hnd hin) f n hn hc hmem

/-- non-vacuity: the 4-cycle 0-1-2-3 is a `Cycle` of its own filled graph (order 0,1,2,3), so the theorem yields a chord there -/
example : UG.Cycle (UG.AdjE ((UG.mk [0, 1, 2, 3] [(0, 1), (1, 2), (2, 3), (0, 3)]).edges ++
    (UG.mk [0, 1, 2, 3] [(0, 1), (1, 2), (2, 3), (0, 3)]).eliminate [0, 1, 2, 3])) (fun k => k) 4 :=
  -- the cycle runs along original edges
  have hstep : ∀ k < 3, (k, k + 1) ∈ [(0, 1), (1, 2), (2, 3), (0, 3)] := by decide
  ⟨fun _ _ _ _ h => h, fun k hk => .inl (List.mem_append_left _ (hstep k (Nat.lt_of_succ_lt_succ hk))),
    .inr (List.mem_append_left _ (by decide))⟩

/-- non-vacuity: eliminating the 4-cycle 0-1-2-3 in the order 0,1,2,3 adds the chord (1,3) -/
example : (UG.mk [0, 1, 2, 3] [(0, 1), (1, 2), (2, 3), (0, 3)]).eliminate [0, 1, 2, 3] = [(1, 3)] := rfl

example : (DG.mk [0, 1, 2] [(0, 2), (1, 2)]).moralEdges = [(0, 2), (1, 2), (0, 1)] := rfl

end PgmVerif
