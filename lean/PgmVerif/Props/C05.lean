/-
  Props/C05.lean — CPD tables keep their column meaning; validation accepts exactly the
  column-normalised tables, and the joint of a validated network has mass 1 (within the tolerance).
-/
import PgmVerif.Proofs.MassBound
import PgmVerif.Proofs.CPD
import Mathlib.Tactic.NormNum
import PgmVerif.Model.CPD
import PgmVerif.Model.Generated
namespace PgmVerif
open Factor

/-- **column meaning**: entry (i, j) of the 2-D array is P(child = i | j-th parent configuration
    in C order of the declared evidence list) -/
theorem C05_column_meaning (child : Var) (parents : List Var) (ccard : Nat) (pcards : List Nat)
    (table : List (List Rat)) (hrows : table.length = ccard)
    (hcols : ∀ r ∈ table, r.length = pcards.prod) (a : Asg)
    (hc : a child < ccard) (hp : InRange pcards (parents.map a)) :
    (CPD.ofTable child parents ccard pcards table).den a
      = (table.getD (a child) []).getD (ravel pcards (parents.map a)) 0 := by
  rw [← flatten_getD 0 pcards.prod table hcols _ _ (ravel_lt pcards _ hp)]
  exact toArray_getD _ _ _

/-- `get_values()` gives back the 2-D array the CPD was built from -/
theorem C05_get_values (child : Var) (parents : List Var) (ccard : Nat) (pcards : List Nat)
    (table : List (List Rat)) (hrows : table.length = ccard)
    (hcols : ∀ r ∈ table, r.length = pcards.prod) :
    CPD.getValues (CPD.ofTable child parents ccard pcards table) = table := by
  have hrow : ∀ i ∈ List.range ccard,
      (List.range pcards.prod).map (fun j => table.flatten.toArray.getD (i * pcards.prod + j) 0)
        = table.getD i [] := by
    intro i hi
    have hlen : (table.getD i []).length = pcards.prod := by
      rw [List.getD_eq_getElem _ _ (hrows ▸ List.mem_range.mp hi)]
      exact hcols _ (List.getElem_mem _)
    rw [← map_range_getD (table.getD i []) 0, hlen]
    apply List.map_congr_left
    intro j hj
    rw [toArray_getD, flatten_getD 0 _ table hcols i j (List.mem_range.mp hj)]
  refine (List.map_congr_left hrow).trans ?_
  rw [← hrows, map_range_getD]

/-- reordering the parents changes the layout, not the conditional distribution -/
theorem C05_reorder_parents (K : Var → Nat) (f : Factor) (hf : f.WF K) (c : Var) (ps np : List Var)
    (hs : f.scope = c :: ps) (hn : (c :: np).Nodup) (hperm : ∀ v, v ∈ np ↔ v ∈ ps)
    (a : Asg) (ha : Bounded K a) :
    (CPD.reorderParents f np).den a = f.den a ∧ (CPD.reorderParents f np).scope = c :: np ∧
    (CPD.reorderParents f np).WF K := by
  have hmem : ∀ v, v ∈ c :: np ↔ v ∈ f.scope := fun v => by
    rw [hs, List.mem_cons, List.mem_cons, hperm]
  have e : CPD.reorderParents f np = f.permuteAxes (c :: np) := by
    unfold CPD.reorderParents; rw [hs]
  rw [e]
  exact ⟨den_permuteAxes K f hf _ (fun v => (hmem v).mp) (fun v => (hmem v).mpr) a ha, rfl,
    wf_permuteAxes K f hf _ hn (fun v => (hmem v).mp)⟩

/-- column normalisation divides each entry by its column's sum over the child states -/
theorem C05_col_normalize (K : Var → Nat) (f : Factor) (hf : f.WF K) (c : Var) (ps : List Var)
    (hs : f.scope = c :: ps) (a : Asg) (ha : Bounded K a) :
    (CPD.colNormalize f).den a =
      (let s := sumR ((List.range (K c)).map (fun x => f.den (upd a c x)))
       if s = 0 then 0 else f.den a / s) ∧ (CPD.colNormalize f).WF K :=
  ⟨den_colNormalize K f hf c ps hs a ha, wf_divide K f _ hf⟩

/-- marginalising parents out of a CPD = summing them out and renormalising each column -/
theorem C05_marginalize (K : Var → Nat) (f : Factor) (hf : f.WF K) (c : Var) (ps vs : List Var)
    (hs : f.scope = c :: ps) (hc : c ∉ vs) (a : Asg) (ha : Bounded K a) :
    (CPD.marginalize f vs).den a =
      (let g := f.marginalize vs
       let s := sumR ((List.range (K c)).map (fun x => g.den (upd a c x)))
       if s = 0 then 0 else g.den a / s) :=
  den_colNormalize K _ (wf_marginalize K f hf vs) c _
    ((scope_marginalize K f hf vs).trans (keepScope_cons f c ps hs vs hc)) a ha

/-- reducing parents of a CPD = slicing and renormalising each column -/
theorem C05_reduce (K : Var → Nat) (f : Factor) (hf : f.WF K) (c : Var) (ps : List Var)
    (ev : List (Var × Nat)) (hs : f.scope = c :: ps) (hc : c ∉ ev.map (·.1))
    (a : Asg) (ha : Bounded K a) :
    (CPD.reduce f ev).den a =
      (let g := f.reduce ev
       let s := sumR ((List.range (K c)).map (fun x => g.den (upd a c x)))
       if s = 0 then 0 else g.den a / s) :=
  den_colNormalize K _ (wf_reduce K f hf ev) c _
    ((scope_reduce K f hf ev).trans (keepScope_cons f c ps hs _ hc)) a ha

/-- an accepted CPD has every column sum within the tolerance of 1 -/
theorem C05_valid_sound (K : Var → Nat) (tol : Rat) (f : Factor) (hf : f.WF K) (c : Var) (ps : List Var)
    (hs : f.scope = c :: ps) (hv : CPD.isValid tol f = true) (a : Asg) (ha : Bounded K a) :
    CPD.absR (sumR ((List.range (K c)).map (fun x => f.den (upd a c x))) - 1) ≤ tol := by
  obtain ⟨hlt, hd⟩ := den_eq_getElem K _ (columnSums_isTable K f hf c ps hs).wf a ha
  rw [← columnSums_den K f hf c ps hs a ha, hd]
  exact of_decide_eq_true (Array.all_eq_true.mp hv _ hlt)

/-- a CPD all of whose column sums are within the tolerance is accepted -/
theorem C05_valid_complete (K : Var → Nat) (hK : ∀ v, 0 < K v) (tol : Rat) (f : Factor) (hf : f.WF K)
    (c : Var) (ps : List Var) (hs : f.scope = c :: ps)
    (h : ∀ a, Bounded K a →
      CPD.absR (sumR ((List.range (K c)).map (fun x => f.den (upd a c x))) - 1) ≤ tol) :
    CPD.isValid tol f = true := by
  have hcs := (columnSums_isTable K f hf c ps hs).wf
  refine Array.all_eq_true.mpr (fun i hi => decide_eq_true ?_)
  -- the i-th column is the column of the joint state decoded from i
  have hiP : i < (columnSums f).card.prod := hcs.2.2 ▸ hi
  have hb := asgOf_bounded K hK _ hcs i hiP
  have := h _ hb
  rwa [← columnSums_den K f hf c ps hs _ hb, den_asgOf K _ hcs i hiP, ← Array.getElem_eq_getD (h := hi)] at this

theorem checkNode_eq_none (tol : Rat) (n : NodeSpec) : checkNode tol n = none ↔
    ∃ f, n.cpd = some f ∧ sameSet f.scope.tail n.graphParents = true ∧ CPD.isValid tol f = true := by
  unfold checkNode
  cases n.cpd with
  | none => simp
  | some f =>
    simp only [Option.some.injEq, exists_eq_left']
    generalize sameSet f.scope.tail n.graphParents = b1
    generalize CPD.isValid tol f = b2
    cases b1 <;> cases b2 <;> simp

/-- `check_model` accepts exactly when every node passes both passes: it has a CPD whose
    evidence set equals the graph parents and whose columns are normalised within tolerance,
    and every parent axis carries the parent's own cardinality and state names -/
theorem C05_check_model_iff (tol : Rat) (ns : List NodeSpec) :
    checkModel tol ns = none ↔
      (∀ n ∈ ns, ∃ f, n.cpd = some f ∧ sameSet f.scope.tail n.graphParents = true ∧
          CPD.isValid tol f = true) ∧
      (∀ n ∈ ns, checkAxes ns n = none) := by
  have key : checkModel tol ns = none ↔
      ns.findSome? (checkNode tol) = none ∧ ns.findSome? (checkAxes ns) = none := by
    unfold checkModel
    cases ns.findSome? (checkNode tol) with
    | none => exact (and_iff_right rfl).symm
    | some e => exact ⟨fun h => (nomatch h), fun h => (nomatch h.1)⟩
  rw [key, List.findSome?_eq_none_iff, List.findSome?_eq_none_iff]
  exact and_congr_left' (forall₂_congr (fun n _ => checkNode_eq_none tol n))

/-- **a validated network's joint sums to one** (exact column sums): list the CPDs children-first
    (reverse topological order), so that the child of each CPD occurs in no later CPD of the list;
    if every CPD is normalised over its child, summing the product of all CPDs over all variables
    gives 1 — for every graph shape and every cardinality -/
theorem C05_joint_mass_one (K : Var → Nat) (cpds : List (Var × Factor))
    (hnorm : ∀ p ∈ cpds, ∀ a, Bounded K a → sumVar K p.1 p.2.den a = 1)
    (htopo : cpds.Pairwise (fun p q => p.1 ∉ q.2.scope))
    (a : Asg) (ha : Bounded K a) :
    sumOut K (cpds.map (·.1)) (jointDen (cpds.map (·.2))) a = 1 := by
  have := leaves_sum_out K [] cpds hnorm (fun _ _ f hf => by cases hf) htopo a ha
  rw [List.append_nil] at this
  rw [this, jointDen_nil]

/-- **joint mass of a network that passes validation with tolerance `t`**: `check_model` accepts a CPD whose columns sum to 1
    within `t` (`is_valid_cpd`, `atol`; the literal is pinned by `C05_atol_tie`).  For non-negative CPDs listed children-first,
    `|column sum − 1| ≤ t` for every column of every CPD gives  `(1−t)^n ≤ Σ_all ∏ CPDs ≤ (1+t)^n`  for the `n`-node network —
    the exact statement `C05_joint_mass_one` is the case `t = 0`. -/
theorem C05_joint_mass_within_tolerance (K : Var → Nat) (t : Rat) (ht1 : t ≤ 1) (cpds : List (Var × Factor))
    (hcol : ∀ p ∈ cpds, ∀ a, Bounded K a → |sumVar K p.1 p.2.den a - 1| ≤ t)
    (hnn : NonnegF K (cpds.map (·.2)))
    (htopo : cpds.Pairwise (fun p q => p.1 ∉ q.2.scope))
    (a : Asg) (ha : Bounded K a) :
    (1 - t) ^ cpds.length ≤ sumOut K (cpds.map (·.1)) (jointDen (cpds.map (·.2))) a ∧
    sumOut K (cpds.map (·.1)) (jointDen (cpds.map (·.2))) a ≤ (1 + t) ^ cpds.length := by
  refine joint_mass_bounds K (1 - t) (1 + t) (sub_nonneg.mpr ht1) cpds ?_ hnn htopo a ha
  intro p hp b hb
  have h := abs_sub_le_iff.mp (hcol p hp b hb)
  exact ⟨sub_le_comm.mp h.2, sub_le_iff_le_add'.mp h.1⟩

/-- non-vacuity of the tolerance statement: a CPD whose column sums are 1.005 and 0.995 is within t = 1/100 and not exact -/
example : |(1005 / 1000 : Rat) - 1| ≤ 1 / 100 ∧ |(995 / 1000 : Rat) - 1| ≤ 1 / 100 ∧ (1005 / 1000 : Rat) ≠ 1 := by
  norm_num [abs_le]

/-- extraction tie: the `atol` literal in `DiscreteFactor.is_valid_cpd` is the documented 0.01 -/
theorem C05_atol_tie : Generated.validCpdAtol = some (1, 100) := rfl

/-! non-vacuity: a concrete CPD meets the hypotheses -/
example : (CPD.ofTable 0 [1] 2 [2] [[1/2, 1/3], [1/2, 2/3]]).WF (fun _ => 2) ∧
    (CPD.ofTable 0 [1] 2 [2] [[1/2, 1/3], [1/2, 2/3]]).scope = 0 :: [1] ∧ Bounded (fun _ => 2) (fun _ => 1) :=
  ⟨⟨by decide, rfl, rfl⟩, rfl, fun _ => Nat.one_lt_two⟩

end PgmVerif
