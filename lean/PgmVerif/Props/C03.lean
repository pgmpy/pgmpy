/-
  Props/C03.lean — MAP: the flat argmax of a table, decoded through the cardinalities, is an
  in-range joint state of exactly the table's variables at which the table is maximal.
  With C01 (the VE result denotes the exact posterior) this is "MAP returns a maximiser".
  Also: max-product elimination in any order leaves the maximum of the factor product over the eliminated
  variables, and multiplying a table by a positive number does not move its argmax.
-/
import PgmVerif.Proofs.VE
namespace PgmVerif
open Factor

/-- `argmaxList` walks the list exactly as `maxR` does: the entry it points at is the maximum.
    (Cases of `fun_induction argmaxList`, here and below: `[]`, a singleton, `x :: y :: ys` with
    `x < (y :: ys)[k]`, and with `¬ x < (y :: ys)[k]`, where `k = argmaxList (y :: ys)`.) -/
theorem getD_argmaxList (l : List Rat) : l.getD (argmaxList l) 0 = maxR l := by
  fun_induction argmaxList l with
  | case1 => rfl
  | case2 => rfl
  | case3 x y ys k hlt ih =>
    unfold maxR
    rw [← ih]
    exact (if_pos hlt).symm
  | case4 x y ys k hnl ih =>
    unfold maxR
    rw [← ih]
    exact (if_neg hnl).symm

theorem argmaxList_lt (l : List Rat) (hl : l ≠ []) : argmaxList l < l.length := by
  fun_induction argmaxList l with
  | case1 => exact absurd rfl hl
  | case2 => exact Nat.zero_lt_one
  | case3 x y ys k hlt ih => exact Nat.succ_lt_succ (ih (List.cons_ne_nil _ _))
  | case4 x y ys k hnl ih => exact Nat.zero_lt_succ _

/-- the flat argmax is a valid index at which the table is maximal -/
theorem C03_argmax_is_max (f : Factor) (hne : f.vals.size ≠ 0) :
    argmaxIdx f < f.vals.size ∧ ∀ i, i < f.vals.size → f.vals.getD i 0 ≤ f.vals.getD (argmaxIdx f) 0 := by
  have hl : f.vals.toList ≠ [] := fun h => hne (by rw [← Array.length_toList, h]; rfl)
  -- `f.vals.toList.toArray` is `f.vals` by structure eta
  have e : ∀ i, f.vals.getD i 0 = f.vals.toList.getD i 0 := fun i => toArray_getD f.vals.toList i 0
  rw [← Array.length_toList]
  refine ⟨argmaxList_lt _ hl, fun i hi => ?_⟩
  rw [e, e, argmaxIdx, getD_argmaxList, ← List.getElem_eq_getD (h := hi) 0]
  exact maxR_ge _ _ (List.getElem_mem hi)

/-- decoding a flat index (`DiscreteFactor.assignment`): exactly the scope variables, each with
    an in-range state, and the table's value at the decoded state is the indexed entry -/
theorem C03_argmax_decode (K : Var → Nat) (f : Factor) (hf : f.WF K) (idx : Nat) (hi : idx < f.card.prod)
    (a0 : Asg) :
    (f.assignment idx).map (·.1) = f.scope ∧
    (∀ p ∈ f.assignment idx, p.2 < K p.1) ∧
    f.den (overrideL a0 f.scope (unravel f.card idx)) = f.vals.getD idx 0 := by
  refine ⟨?_, ?_, den_overrideL_unravel K f hf a0 idx hi⟩
  · unfold assignment
    rw [List.map_fst_zip]
    rw [unravel_length, hf.2.1, List.length_map]
  · intro p hp
    unfold assignment at hp
    have hr := unravel_inRange f.card idx hi
    rw [hf.2.1] at hr hp
    exact inRange_map_zip K _ _ hr p hp

/-- **MAP is a maximiser**: the state decoded from the argmax of a well-formed non-empty table
    is at least as large as the table's value at every genuine joint state -/
theorem C03_map_is_maximiser (K : Var → Nat) (f : Factor) (hf : f.WF K) (hne : f.card.prod ≠ 0)
    (a0 a : Asg) (ha : Bounded K a) :
    f.den a ≤ f.den (overrideL a0 f.scope (unravel f.card (argmaxIdx f))) := by
  obtain ⟨h1, h2⟩ := C03_argmax_is_max f (by rw [hf.2.2]; exact hne)
  obtain ⟨hlt, _⟩ := den_eq_getElem K f hf a ha
  rw [den_overrideL_unravel K f hf a0 (argmaxIdx f) (hf.2.2 ▸ h1)]
  -- `f.den a` is the entry of `f.vals` at the flat index of `a`, read with default 0
  exact h2 _ hlt

/-- **max-product variable elimination, any order**: for well-formed non-negative factors (CPDs, or CPDs reduced to the
    evidence), maximising out the variables of ANY duplicate-free `order` the way `map_query` / `max_marginal` do
    (multiply the working factors that mention the variable, maximise it out, file the result) leaves factors whose
    product is  max over exactly those variables of the product of all factors — so the arg max decoded by
    `C03_argmax_decode` from the final table is a maximiser of the exact (unnormalised) posterior, whatever the order -/
theorem C03_max_elimination_any_order (K : Var → Nat) (fs : List Factor) (order : List Var)
    (hfs : AllWF K fs) (hnn : NonnegF K fs) (hn : order.Nodup)
    (hord : ∀ v ∈ order, Mentioned fs v ∧ 0 < K v) (a : Asg) (ha : Bounded K a) :
    jointDen (veMaxRun fs order) a = maxOut K order (jointDen fs) a :=
  (veMaxRun_spec K order fs hfs hnn hn fun v hv => (hord v hv).1).2 a ha

example : (Factor.mk [0, 1] [2, 2] #[1/10, 4/10, 3/10, 2/10]).WF (fun _ => 2) ∧
    (Factor.mk [0, 1] [2, 2] #[1/10, 4/10, 3/10, 2/10]).card.prod ≠ 0 :=
  ⟨⟨by decide, rfl, rfl⟩, by decide⟩

/-- **normalising does not move the argmax**: multiplying every entry by the same positive number (1 / P(evidence), however small
    P(evidence) is) leaves the first maximal index where it was -/
theorem C03_argmax_scale_invariant (c : Rat) (hc : 0 < c) : ∀ l : List Rat,
    argmaxList (l.map (c * ·)) = argmaxList l
  | [] => rfl
  | [_] => rfl
  | x :: y :: ys => by
    have ih := C03_argmax_scale_invariant c hc (y :: ys)
    simp only [List.map_cons] at ih ⊢
    unfold argmaxList
    simp only
    rw [ih]
    have hg : (c * y :: ys.map (c * ·)).getD (argmaxList (y :: ys)) 0
        = c * (y :: ys).getD (argmaxList (y :: ys)) 0 := by
      simpa only [List.map_cons, mul_zero] using List.getD_map (y :: ys) 0 (c * ·) (n := argmaxList (y :: ys))
    rw [hg]
    by_cases h : x < (y :: ys).getD (argmaxList (y :: ys)) 0
    · rw [if_pos h, if_pos (mul_lt_mul_of_pos_left h hc)]
    · rw [if_neg h, if_neg (fun h' => h (lt_of_mul_lt_mul_left h' (le_of_lt hc)))]

end PgmVerif
