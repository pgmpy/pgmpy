/-
  Props/C17.lean — unrolling a two-slice template is slice-wise renaming.
-/
import PgmVerif.Props.C01
import PgmVerif.Props.C16
import PgmVerif.Model.DBN
namespace PgmVerif
open Factor

/-! `Factor.shift d` unfolds to `Factor.rename (· + d)` (`rfl`): the shift lemmas are the rename lemmas of
    Props/C16 read through this unfolding. -/

/-- the CPD of slice t in the unrolled network denotes the template CPD at the assignment shifted
    by t·k: (f shifted by d).den a = f.den (v ↦ a (v + d)) -/
theorem C17_shift_den (d : Nat) (f : Factor) (a : Asg) :
    (f.shift d).den a = f.den (fun v => a (v + d)) :=
  C16_rename_den (· + d) f a

/-- unrolling one more slice appends one more shifted copy of the slice-1 CPDs and changes
    nothing else (so the template's CPDs are exposed unchanged in every slice) -/
theorem C17_unroll_slices (tm : DBNTemplate) (T : Nat) :
    tm.unroll 0 = tm.cpd0 ∧
    tm.unroll (T + 1) = tm.unroll T ++ tm.cpd1.map (Factor.shift (T * tm.k)) := by
  constructor
  · simp [DBNTemplate.unroll]
  · unfold DBNTemplate.unroll
    rw [List.range_succ, List.flatMap_append]
    simp [List.append_assoc]

/-- **stationarity of the unrolled network**: shifting composes, so the CPD that slice t+1 gets is the CPD of slice t
    moved one slice further - every slice carries the same transition tables -/
theorem C17_shift_add (d e t k : Nat) (f : Factor) :
    (f.shift d).shift e = f.shift (d + e) ∧ (f.shift (t * k)).shift k = f.shift ((t + 1) * k) := by
  have h : ∀ d e, (f.shift d).shift e = f.shift (d + e) := by
    intro d e
    unfold Factor.shift
    simp [List.map_map, Function.comp_def, Nat.add_assoc]
  exact ⟨h d e, by rw [h, Nat.succ_mul]⟩

/-- **a longer horizon only appends**: the factors of the network unrolled to T are a prefix of those of the network
    unrolled to T + n - unrolling further never alters the CPDs of earlier slices -/
theorem C17_unroll_prefix (tm : DBNTemplate) (T n : Nat) : ∃ rest, tm.unroll (T + n) = tm.unroll T ++ rest := by
  induction n with
  | zero => exact ⟨[], by simp⟩
  | succ n ih =>
    obtain ⟨r, hr⟩ := ih
    refine ⟨r ++ tm.cpd1.map (Factor.shift ((T + n) * tm.k)), ?_⟩
    rw [← Nat.add_assoc, (C17_unroll_slices tm (T + n)).2, hr, List.append_assoc]

/-- shifted CPDs are well-formed for the unrolled network's cardinalities -/
theorem C17_unroll_wf (K : Var → Nat) (d : Nat) (f : Factor) (hf : f.WF (fun v => K (v + d))) :
    (f.shift d).WF K :=
  wf_rename K (· + d) (fun _ _ h => Nat.add_right_cancel h) f hf

/-- ids of the variables of slices 0..T in slice order, without the kept (query / evidence) ones -/
def sliceOrder (k T : Nat) (keep : List Var) : List Var :=
  (List.range ((T + 1) * k)).filter (fun i => !keep.contains i)

theorem sliceOrder_nodup (k T : Nat) (keep : List Var) : (sliceOrder k T keep).Nodup :=
  List.Nodup.filter _ List.nodup_range

/-- **slice-wise elimination of the unrolled network is exact**: for a well-formed template, any evidence and
    any set of kept variables, variable elimination in slice order (slice 0 first, then slice 1, …) leaves the
    evidence-reduced product of ALL unrolled CPDs summed over exactly the eliminated variables — for every
    number of slices T.  (Instance of `C01_ve_any_order`; the forward pass of `DBNInference` computes the same
    sums through its start / 1.5-slice junction trees.) -/
theorem C17_slicewise_elimination_exact (K : Var → Nat) (tm : DBNTemplate) (T : Nat) (ev : List (Var × Nat))
    (keep : List Var) (hwf : AllWF K (tm.unroll T)) (hkeep : ∀ p ∈ ev, p.1 ∈ keep)
    (hment : ∀ v ∈ sliceOrder tm.k T keep, Mentioned (tm.unroll T) v) (a : Asg) (ha : Bounded K a) :
    (productAll (veRun ((tm.unroll T).map (fun f => f.reduce ev)) (sliceOrder tm.k T keep))).den a
      = sumOut K (sliceOrder tm.k T keep)
          (fun b => jointDen (tm.unroll T) (overrideL b (ev.map (·.1)) (ev.map (·.2)))) a := by
  apply C01_ve_any_order K (tm.unroll T) ev (sliceOrder tm.k T keep) hwf (sliceOrder_nodup tm.k T keep) _ a ha
  intro v hv
  refine ⟨?_, hment v hv⟩
  intro hmem
  obtain ⟨p, hp, rfl⟩ := List.mem_map.mp hmem
  exact (mem_filter_not_contains.mp hv).2 (hkeep p hp)

/-- non-vacuity: a template CPD that is well-formed for the shifted cardinalities -/
example : (Factor.mk [1, 0] [2, 2] #[9/10, 1/10, 1/10, 9/10]).WF (fun v => (fun _ => 2) (v + 1)) :=
  ⟨by decide, rfl, rfl⟩

end PgmVerif
