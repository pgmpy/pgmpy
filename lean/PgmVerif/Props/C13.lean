/-
  Props/C13.lean — interventions: do-surgery on the model and the algebra of parent adjustment.
-/
import PgmVerif.Props.C15
import PgmVerif.Proofs.VE
namespace PgmVerif
open BNState

/-- **do-surgery**: `do(vs)` keeps the nodes, removes exactly the edges into `vs`, leaves the CPD
    of every other node untouched and replaces the CPD of an intervened node by the
    column-normalised sum over its parents (a parent-free table) -/
theorem C13_do_surgery (s : BNState) (vs : List Var) (hv : vs.all s.nodes.contains = true) :
    (s.step (.doOp vs)).2 = Out.ok ∧
    (s.step (.doOp vs)).1.nodes = s.nodes ∧
    (∀ e, e ∈ (s.step (.doOp vs)).1.edges ↔ e ∈ s.edges ∧ e.2 ∉ vs) ∧
    (s.step (.doOp vs)).1.cpds = s.cpds.map (fun f =>
      if vs.contains (childOf f) then CPD.marginalize f (f.scope.drop 1) else f) := by
  rw [step_doOp s vs hv]
  exact ⟨rfl, rfl, fun e => by simp [List.mem_filter], rfl⟩

/-- interventions never create a cycle -/
theorem C13_do_acyclic (s : BNState) (vs : List Var) (h : s.Inv) : (s.step (.doOp vs)).1.Inv :=
  C15_step_inv s (.doOp vs) h

/-- **parent adjustment, algebraic core** (partial): write the joint as P(x|z)·R with R the
    product of the other CPDs (the truncated factorisation).  If P(y,x,z) = c·t, P(x,z) = c·s and
    P(z) = s — i.e. the marginal of the non-descendants Z is not changed by the intervention,
    which `C13_parent_adjustment_exact` below proves for Z ⊇ pa(x) — then the adjustment term
    P(y | x, z)·P(z) is exactly the truncated-factorisation term t -/
theorem C13_parents_adjustment (pyxz pxz pz c t s : Rat) (h1 : pyxz = c * t) (h2 : pxz = c * s)
    (h3 : pz = s) (hc : c ≠ 0) (hs : s ≠ 0) : pyxz / pxz * pz = t := by
  rw [h1, h2, h3, mul_div_mul_left _ _ hc, div_mul_cancel₀ _ hs]

/-- **parent adjustment is exact.**  A Bayesian network is given as  `after ++ [cx] ++ before`:
    `cx` is the CPD of the intervened variable `x`; `after` lists the CPDs of `x`'s descendants,
    children first (the hypotheses are exactly those of `C05_joint_mass_one`: normalised, a later
    entry does not mention an earlier child, no child occurs in `cx` or `before`); `before` are the
    CPDs of the non-descendants, none of which mentions `x`.  `Y` are the outcome variables, `Z` the
    adjustment set, `O` all other variables, `W` those of `Y ++ O` that are not descendants.  With
    J = joint and R = product of all CPDs except `cx` (the truncated factorisation), the adjustment
    formula  Σ_z P(y | x, z) · P(z)  equals  Σ_{z, others} R — provided `cx` mentions only `x` and `Z`
    (i.e. `Z ⊇ pa(x)`, nothing in `Y ++ O` occurs in it) and the conditionals are defined
    (P(x | z) ≠ 0, P(z) ≠ 0).  No hypothesis names `Z` itself (`hYO` and `hfresh` say what `cx` may not
    mention), `W` only serves to split `Y ++ O` in `hperm`, and `Y` is not summed: both sides are
    functions of the `x`- and `Y`-coordinates of `a`. -/
theorem C13_parent_adjustment_exact (K : Var → Nat) (x : Var) (cx : Factor)
    (after : List (Var × Factor)) (before : List Factor) (Y Z O W : List Var)
    (hYO : ∀ v ∈ Y ++ O, v ∉ cx.scope)
    (hxnorm : ∀ a, Bounded K a → sumVar K x cx.den a = 1)
    (hxbefore : ∀ f ∈ before, x ∉ f.scope)
    (hnorm : ∀ p ∈ after, ∀ a, Bounded K a → sumVar K p.1 p.2.den a = 1)
    (hfresh : ∀ p ∈ after, ∀ f ∈ cx :: before, p.1 ∉ f.scope)
    (htopo : after.Pairwise (fun p q => p.1 ∉ q.2.scope))
    (hperm : (Y ++ O).Perm (after.map (·.1) ++ W))
    (hc : ∀ a, Bounded K a → cx.den a ≠ 0)
    (hs : ∀ a, Bounded K a → sumOut K (Y ++ O) (jointDen (after.map (·.2) ++ before)) a ≠ 0)
    (a : Asg) (ha : Bounded K a) :
    sumOut K Z (fun b =>
        sumOut K O (fun b' => cx.den b' * jointDen (after.map (·.2) ++ before) b') b
          / sumOut K (Y ++ O) (fun b' => cx.den b' * jointDen (after.map (·.2) ++ before) b') b
          * sumOut K (x :: (Y ++ O)) (fun b' => cx.den b' * jointDen (after.map (·.2) ++ before) b') b) a
      = sumOut K (Z ++ O) (jointDen (after.map (·.2) ++ before)) a := by
  set R := jointDen (after.map (·.2) ++ before)
  -- cx ignores Y, O and the descendants
  have hcYO : IndepOf cx.den (Y ++ O) := fun b v y hv => den_upd_notin cx v (hYO v hv) b y
  have hcO : IndepOf cx.den O := fun b v y hv => hcYO b v y (List.mem_append_right _ hv)
  have hcA : IndepOf cx.den (after.map (·.1)) := by
    intro b v y hv
    obtain ⟨p, hp, rfl⟩ := List.mem_map.mp hv
    exact den_upd_notin cx p.1 (hfresh p hp cx List.mem_cons_self) b y
  have e1 : ∀ b, sumOut K O (fun b' => cx.den b' * R b') b = cx.den b * sumOut K O R b :=
    fun b => sumOut_mul_const K O cx.den R hcO b
  have e2 : ∀ b, sumOut K (Y ++ O) (fun b' => cx.den b' * R b') b = cx.den b * sumOut K (Y ++ O) R b :=
    fun b => sumOut_mul_const K (Y ++ O) cx.den R hcYO b
  -- summing the descendants out of R leaves the product of the non-descendants' CPDs
  have hleaves : EqB K (sumOut K (after.map (·.1)) R) (jointDen before) :=
    leaves_sum_out K before after hnorm (fun p hp f hf => hfresh p hp f (List.mem_cons_of_mem _ hf)) htopo
  -- P(z) = Σ_{y, others} R : the marginal of the non-descendants is not changed by the intervention
  have e3 : EqB K (sumOut K (x :: (Y ++ O)) (fun b' => cx.den b' * R b')) (sumOut K (Y ++ O) R) := by
    intro b hb
    have p1 : (x :: (Y ++ O)).Perm (after.map (·.1) ++ x :: W) :=
      (List.Perm.cons x hperm).trans List.perm_middle.symm
    rw [sumOut_perm K p1, sumOut_perm K hperm, sumOut_append, sumOut_append]
    simp only [sumOut]
    apply sumOut_congr W _ b hb
    intro b1 hb1
    have hJ : sumOut K (after.map (·.1)) (fun b' => cx.den b' * R b')
        = fun b' => cx.den b' * sumOut K (after.map (·.1)) R b' :=
      funext (fun b' => sumOut_mul_const K _ cx.den R hcA b')
    rw [hJ]
    have hstep : EqB K (fun b' => cx.den b' * sumOut K (after.map (·.1)) R b') (jointDen (cx :: before)) :=
      fun b2 hb2 => (congrArg (cx.den b2 * ·) (hleaves b2 hb2)).trans (jointDen_cons cx before b2).symm
    rw [sumVar_congr x hstep b1 hb1, barren_leaf K cx before x hxnorm hxbefore b1 hb1, hleaves b1 hb1]
  -- the adjustment term is the truncated-factorisation term, pointwise
  have hpt : EqB K (fun b =>
        sumOut K O (fun b' => cx.den b' * R b') b / sumOut K (Y ++ O) (fun b' => cx.den b' * R b') b
          * sumOut K (x :: (Y ++ O)) (fun b' => cx.den b' * R b') b) (sumOut K O R) :=
    fun b hb => C13_parents_adjustment _ _ _ _ _ _ (e1 b) (e2 b) (e3 b hb) (hc b hb) (hs b hb)
  rw [sumOut_congr Z hpt a ha, ← sumOut_append, sumOut_perm K (List.perm_append_comm)]

/-! non-vacuity: the network Z → X (Z = variable 0, X = variable 1), intervention on X, adjustment
    set {Z}: every hypothesis of `C13_parent_adjustment_exact` holds -/
def nvPz : Factor := Factor.mk [0] [2] #[1/2, 1/2]
def nvPxz : Factor := Factor.mk [1, 0] [2, 2] #[1/4, 3/4, 3/4, 1/4]

private theorem bounded_two (a : Asg) (ha : Bounded (fun _ => 2) a) (v : Var) : a v = 0 ∨ a v = 1 := by
  have : a v < 2 := ha v
  omega

private theorem den_mk_one (v : Var) (c : Nat) (vals : Array Rat) (a : Asg) :
    (Factor.mk [v] [c] vals).den a = vals.getD (a v * 1 + 0) 0 := rfl
private theorem den_mk_pair (u v : Var) (cu cv : Nat) (vals : Array Rat) (a : Asg) :
    (Factor.mk [u, v] [cu, cv] vals).den a = vals.getD (a u * (cv * 1) + (a v * 1 + 0)) 0 := rfl

theorem nvPz_ne (a : Asg) (ha : Bounded (fun _ => 2) a) : nvPz.den a ≠ 0 := by
  rw [nvPz, den_mk_one]
  rcases bounded_two a ha 0 with e | e <;> rw [e] <;> exact div_ne_zero one_ne_zero two_ne_zero

theorem nvPxz_ne (a : Asg) (ha : Bounded (fun _ => 2) a) : nvPxz.den a ≠ 0 := by
  rw [nvPxz, den_mk_pair]
  rcases bounded_two a ha 0 with e | e <;> rcases bounded_two a ha 1 with e' | e' <;> rw [e, e']
  · exact div_ne_zero one_ne_zero four_ne_zero
  · exact div_ne_zero three_ne_zero four_ne_zero
  · exact div_ne_zero three_ne_zero four_ne_zero
  · exact div_ne_zero one_ne_zero four_ne_zero

theorem nvPxz_norm (a : Asg) (ha : Bounded (fun _ => 2) a) : sumVar (fun _ => 2) 1 nvPxz.den a = 1 := by
  show nvPxz.vals.getD (0 * (2 * 1) + (a 0 * 1 + 0)) 0
    + (nvPxz.vals.getD (1 * (2 * 1) + (a 0 * 1 + 0)) 0 + 0) = 1
  rcases bounded_two a ha 0 with e | e <;> rw [e]
  · show (1/4 : Rat) + (3/4 + 0) = 1; norm_num
  · show (3/4 : Rat) + (1/4 + 0) = 1; norm_num

example (a : Asg) (ha : Bounded (fun _ => 2) a) :
    sumOut (fun _ => 2) [0] (fun b =>
        sumOut (fun _ => 2) [] (fun b' => nvPxz.den b' * jointDen ([] ++ [nvPz]) b') b
          / sumOut (fun _ => 2) ([] ++ []) (fun b' => nvPxz.den b' * jointDen ([] ++ [nvPz]) b') b
          * sumOut (fun _ => 2) (1 :: ([] ++ [])) (fun b' => nvPxz.den b' * jointDen ([] ++ [nvPz]) b') b) a
      = sumOut (fun _ => 2) ([0] ++ []) (jointDen ([] ++ [nvPz])) a :=
  C13_parent_adjustment_exact (fun _ => 2) 1 nvPxz [] [nvPz] [] [0] [] []
    (fun v hv => by cases hv) nvPxz_norm
    (fun f hf => by rw [List.mem_singleton.mp hf]; decide)
    (fun p hp => by cases hp) (fun p hp => by cases hp) List.Pairwise.nil (List.Perm.refl _)
    nvPxz_ne
    (fun b hb => by
      show jointDen ([] ++ [nvPz]) b ≠ 0
      rw [List.nil_append, jointDen_cons, jointDen_nil, mul_one]
      exact nvPz_ne b hb)
    a ha

example : BNState.init.Inv := BNState.init_inv

/-- **interventions compose on the graph**: `do(vs)` followed by `do(ws)` leaves the nodes and removes exactly the edges into
    `vs ++ ws` - the same graph as the single intervention on both sets, in either order; in particular `do` is idempotent on the graph -/
theorem C13_do_compose_graph (s : BNState) (vs ws : List Var)
    (hv : vs.all s.nodes.contains = true) (hw : ws.all s.nodes.contains = true) :
    ((s.step (.doOp vs)).1.step (.doOp ws)).1.nodes = s.nodes ∧
    (∀ e, e ∈ ((s.step (.doOp vs)).1.step (.doOp ws)).1.edges ↔ e ∈ (s.step (.doOp (vs ++ ws))).1.edges) ∧
    (∀ e, e ∈ ((s.step (.doOp vs)).1.step (.doOp ws)).1.edges ↔ e ∈ ((s.step (.doOp ws)).1.step (.doOp vs)).1.edges) := by
  have h1 := C13_do_surgery s vs hv
  have h1' := C13_do_surgery s ws hw
  have h2 := C13_do_surgery _ ws (h1.2.1.symm ▸ hw)
  have h2' := C13_do_surgery _ vs (h1'.2.1.symm ▸ hv)
  have h3 := C13_do_surgery s (vs ++ ws) (by rw [List.all_append, hv, hw]; rfl)
  refine ⟨h2.2.1.trans h1.2.1, fun e => ?_, fun e => ?_⟩
  · rw [h2.2.2.1 e, h1.2.2.1 e, h3.2.2.1 e, List.mem_append, not_or, and_assoc]
  · rw [h2.2.2.1 e, h1.2.2.1 e, h2'.2.2.1 e, h1'.2.2.1 e, and_right_comm]

/-- **truncated factorisation, the table side**: after `do(vs)` on a model whose CPDs are CPD-shaped (`C15_cpd_bookkeeping`:
    every reachable state), the stored CPD of every intervened variable is a table over that variable alone - its
    parents are gone from the table as `C13_do_surgery` removes them from the graph - and all other CPDs are untouched -/
theorem C13_do_cpd_parentless (s : BNState) (vs : List Var) (hv : vs.all s.nodes.contains = true) (h : s.CpdInv) :
    (∀ g ∈ (s.step (.doOp vs)).1.cpds, childOf g ∈ vs → g.scope = [childOf g]) ∧
    (∀ f ∈ s.cpds, childOf f ∉ vs → f ∈ (s.step (.doOp vs)).1.cpds) := by
  rw [step_doOp s vs hv]
  refine ⟨fun g hg hc => ?_, fun f hf hc => List.mem_map.mpr ⟨f, hf, if_neg (by simpa using hc)⟩⟩
  obtain ⟨f, hf, rfl⟩ := List.mem_map.mp hg
  have hsh := (h.2 f hf).1
  by_cases hcv : vs.contains (childOf f) = true
  · rw [if_pos hcv, (shaped_marg f _ hsh hsh.childOf_notMem_tail).2]
    exact C15_do_parentless f hsh
  · rw [if_neg hcv] at hc
    exact absurd (List.contains_iff_mem.mpr hc) hcv

end PgmVerif
