/-
  Props/C01.lean — exact posterior queries equal the conditional of the CPD-product joint,
  for EVERY elimination order.  (Helper lemmas: Proofs/SumProd, Proofs/VE, Proofs/Spec.)
-/
import PgmVerif.Proofs.Spec
import PgmVerif.Model.CPD
namespace PgmVerif
open Factor

/-- one step of the classic loop: multiplying the factors that mention `v` and summing `v` out
    leaves a factor list whose product is Σ_v of the old product -/
theorem C01_elim_step (K : Var → Nat) (fs : List Factor) (hfs : AllWF K fs) (v : Var)
    (hm : Mentioned fs v) (a : Asg) (ha : Bounded K a) :
    jointDen (elimVar fs v) a = ∑ x ∈ Finset.range (K v), jointDen fs (upd a v x) := by
  rw [← sumVar_eq]
  exact (elimVarWith_spec sumLaw K fs hfs (fun _ _ _ _ => trivial) v hm).2.2.1 a ha

/-- sums over different variables commute: the nested sum does not depend on the order -/
theorem C01_sum_swap (K : Var → Nat) (l l' : List Var) (p : l.Perm l') (g : Asg → Rat) :
    sumOut K l g = sumOut K l' g := sumOut_perm K p g

/-- **variable elimination, any order**: after reducing every factor to the evidence and
    eliminating the variables of `order` (any duplicate-free list of unobserved variables that
    occur in the model), the product of the remaining factors is the evidence-reduced product
    of all factors summed over exactly those variables -/
theorem C01_ve_any_order (K : Var → Nat) (fs : List Factor) (ev : List (Var × Nat)) (order : List Var)
    (hfs : AllWF K fs) (hn : order.Nodup)
    (hord : ∀ v ∈ order, v ∉ ev.map (·.1) ∧ Mentioned fs v) (a : Asg) (ha : Bounded K a) :
    (productAll (veRun (fs.map (fun f => f.reduce ev)) order)).den a
      = sumOut K order (fun b => jointDen fs (overrideL b (ev.map (·.1)) (ev.map (·.2)))) a := by
  obtain ⟨hr1, hr2⟩ := reduce_map_spec K ev fs hfs
  have hm : ∀ v ∈ order, Mentioned (fs.map (fun f => f.reduce ev)) v :=
    fun v hv => mentioned_reduce K ev fs hfs v (hord v hv).1 (hord v hv).2
  obtain ⟨h1, h2⟩ := veRun_spec K order _ hr1 hn hm
  rw [(productAll_spec K _ h1).2.1 a ha, h2 a ha]
  exact sumOut_congr order hr2 a ha

/-- the specification — build the whole joint table, slice it at the evidence, sum out the
    other variables — written as the same nested sum -/
theorem C01_spec_nested (K : Var → Nat) (fs : List Factor) (vars : List Var) (ev : List (Var × Nat))
    (others : List Var) (hn : vars.Nodup) (hcov : ∀ f ∈ fs, ∀ v ∈ f.scope, v ∈ vars)
    (hev : ∀ p ∈ ev, p.2 < K p.1) (a : Asg) (ha : Bounded K a) :
    (((jointTable fs vars (vars.map K)).reduce ev).marginalize others).den a
      = sumOut K ((vars.filter (fun v => !(ev.map (·.1)).contains v)).filter (fun v => others.contains v))
          (fun b => jointDen fs (overrideL b (ev.map (·.1)) (ev.map (·.2)))) a := by
  obtain ⟨hJ, hJden⟩ := jointTable_spec K fs vars hn hcov
  have hR := reduce_isTable K _ hJ ev
  rw [den_marginalize_nested K _ hR.wf others a ha, elimScope, hR.scope]
  exact sumOut_congr _ (fun b hb => (hR.den b hb).trans (hJden _ (overrideL_bounded K ev hev b hb))) a ha

/-- **order independence / agreement with the specification**: for every order that is a
    permutation of the unobserved non-query variables, the VE result equals the brute-force
    conditional (before the common normalisation) -/
theorem C01_order_irrelevant (K : Var → Nat) (fs : List Factor) (vars : List Var) (ev : List (Var × Nat))
    (others order : List Var) (hfs : AllWF K fs) (hn : vars.Nodup)
    (hcov : ∀ f ∈ fs, ∀ v ∈ f.scope, v ∈ vars) (hev : ∀ p ∈ ev, p.2 < K p.1)
    (hperm : order.Perm ((vars.filter (fun v => !(ev.map (·.1)).contains v)).filter
      (fun v => others.contains v)))
    (hment : ∀ v ∈ order, Mentioned fs v) (a : Asg) (ha : Bounded K a) :
    (productAll (veRun (fs.map (fun f => f.reduce ev)) order)).den a
      = (((jointTable fs vars (vars.map K)).reduce ev).marginalize others).den a := by
  have hord : ∀ v ∈ order, v ∉ ev.map (·.1) ∧ Mentioned fs v := fun v hv =>
    ⟨(mem_filter_not_contains.mp (List.mem_filter.mp (hperm.mem_iff.mp hv)).1).2, hment v hv⟩
  rw [C01_ve_any_order K fs ev order hfs (hperm.nodup_iff.mpr ((hn.filter _).filter _)) hord a ha,
    C01_spec_nested K fs vars ev others hn hcov hev a ha, C01_sum_swap K _ _ hperm]

/-- **virtual evidence**: the auxiliary binary child `u` of `v` with rows (L, 1 − L), observed in
    state 0, contributes exactly the likelihood factor L(v) -/
theorem C01_virtual_evidence (K : Var → Nat) (u v : Var) (huv : u ≠ v) (hu : K u = 2) (L : List Rat)
    (hL : L.length = K v) (a : Asg) (ha : Bounded K a) :
    ((CPD.ofTable u [v] 2 [K v] [L, L.map (fun x => 1 - x)]).reduce [(u, 0)]).den a = L.getD (a v) 0 := by
  have hwf : (CPD.ofTable u [v] 2 [K v] [L, L.map (fun x => 1 - x)]).WF K := by
    refine ⟨List.nodup_cons.mpr ⟨fun h => huv (List.mem_singleton.mp h), List.nodup_singleton v⟩, ?_, ?_⟩
    · -- the axis lengths `[2, K v]` are the cardinalities `[K u, K v]` of the scope
      exact congrArg (· :: [K v]) hu.symm
    · -- the table has the two rows `L` and `1 − L`; the shape `[2, K v]` has `2 * (K v * 1)` positions
      show ([L, L.map (fun x => 1 - x)].flatten).length = 2 * (K v * 1)
      simp only [List.flatten_cons, List.flatten_nil, List.length_append, List.length_map, List.length_nil, hL]
      rw [Nat.mul_one, Nat.add_zero, Nat.two_mul]
  have hvu : v ≠ u := fun e => huv e.symm
  rw [den_reduce K _ hwf [(u, 0)] a ha]
  unfold den CPD.ofTable
  -- the flat index of `a[u := 0]` becomes `0 * K v + a v`: row 0, column `a v`
  simp only [List.map_cons, List.map_nil, overrideL, ravel, if_true, hvu, if_false, List.prod_cons,
    List.prod_nil, Nat.mul_one, Nat.add_zero]
  rw [toArray_getD, flatten_getD 0 (K v) _ (fun r hr => by
    rcases List.mem_pair.mp hr with rfl | rfl
    · exact hL
    · rw [List.length_map, hL]) 0 (a v) (ha v)]
  -- row 0 of the table is `L`
  rfl

/-- **barren leaf**: a normalised CPD of a variable that occurs nowhere else sums out to 1, so
    removing that node does not change any posterior of the others (ancestral pruning; the
    unobserved `__X` leaves left behind by virtual-evidence queries) -/
theorem C01_barren_leaf (K : Var → Nat) (c : Factor) (fs : List Factor) (u : Var)
    (hnorm : ∀ a, Bounded K a → sumVar K u c.den a = 1) (hu : ∀ f ∈ fs, u ∉ f.scope)
    (a : Asg) (ha : Bounded K a) :
    sumVar K u (jointDen (c :: fs)) a = jointDen fs a :=
  barren_leaf K c fs u hnorm hu a ha

/-! non-vacuity: a two-factor network, an order and a bounded state meeting the hypotheses -/
example : AllWF (fun _ => 2) [Factor.mk [0] [2] #[1/2, 1/2], Factor.mk [1, 0] [2, 2] #[1/3, 1/4, 2/3, 3/4]] ∧
    [0].Nodup ∧ Mentioned [Factor.mk [0] [2] #[1/2, 1/2], Factor.mk [1, 0] [2, 2] #[1/3, 1/4, 2/3, 3/4]] 0 :=
  ⟨List.forall_mem_cons.mpr ⟨⟨List.nodup_singleton _, rfl, rfl⟩,
      List.forall_mem_cons.mpr ⟨⟨by decide, rfl, rfl⟩, fun _ h => nomatch h⟩⟩,
    List.nodup_singleton _, _, List.mem_cons_self, List.mem_cons_self⟩

/-- **a likelihood is defined up to scale**: multiplying one factor of the product (a virtual-evidence likelihood, an unnormalised
    potential) by `c` multiplies the unnormalised answer of every sum-product query by `c` - which `C04_normalize_scale` then
    forgets: the normalised posterior is the same -/
theorem C01_likelihood_scale (K : Var → Nat) (g : Factor) (fs : List Factor) (c : Rat) (vs : List Var) (a : Asg) :
    sumOut K vs (jointDen (Factor.scale c g :: fs)) a = c * sumOut K vs (jointDen (g :: fs)) a := by
  have h : jointDen (Factor.scale c g :: fs) = fun b => c * jointDen (g :: fs) b := by
    funext b
    rw [jointDen_cons, jointDen_cons, scale_den, mul_assoc]
  rw [h, sumOut_const_mul]

end PgmVerif
