/-
  Props/C11.lean — the hill-climbing loop `hcLoop`, from any acyclic start state, keeps the graph acyclic for
  every score table, option set and iteration bound; the chosen operation is the best one; early stop means
  local optimum; the lists, the in-degree limit and the budgets are honoured, reported deltas are exact and the
  score never decreases.  Last: a positive common factor on tree weights ranks all edge sets alike.
-/
import PgmVerif.Proofs.Acyclic
import PgmVerif.Model.Generated
import Mathlib.Algebra.Order.Field.Rat
import Mathlib.Tactic.Ring
import Mathlib.Algebra.BigOperators.Ring.List
namespace PgmVerif
open Relation

/-- the `has_path` saturation finds every directed path -/
theorem hasPathG_complete (g : DG) (hw : g.WFG) (v u : Var) (hv : v ∈ g.nodes)
    (h : ReflTransGen (Rel g.edges) v u) : hasPathG g v u = true :=
  (hasPathG_iff g hw v u).mpr h

theorem bestOp_cons (p : HOp × Rat) (ps : List (HOp × Rat)) :
    bestOp (p :: ps) = some ((bestOp ps).elim p fun q => if q.2 > p.2 then q else p) := by
  rw [bestOp]
  cases bestOp ps with
  | none => rfl
  | some q => exact (apply_ite some _ _ _).symm

theorem bestOp_eq_none {l : List (HOp × Rat)} (h : bestOp l = none) : l = [] := by
  cases l with
  | nil => rfl
  | cons p ps => rw [bestOp_cons] at h; cases h

theorem bestOp_spec (l : List (HOp × Rat)) (b : HOp × Rat) (h : bestOp l = some b) :
    b ∈ l ∧ ∀ p ∈ l, p.2 ≤ b.2 := by
  induction l generalizing b with
  | nil => cases h
  | cons p ps ih =>
    rw [bestOp_cons, Option.some.injEq] at h
    subst h
    cases hq : bestOp ps with
    | none =>
      cases bestOp_eq_none hq
      exact ⟨.head _, fun q hq => by rw [List.mem_singleton.mp hq]; exact le_refl _⟩
    | some q =>
      obtain ⟨hq1, hq2⟩ := ih q hq
      dsimp only [Option.elim]
      split
      · next hgt => exact ⟨.tail _ hq1, List.forall_mem_cons.mpr ⟨le_of_lt hgt, hq2⟩⟩
      · next hng => exact ⟨.head _, List.forall_mem_cons.mpr
          ⟨le_refl _, fun r hr => (hq2 r hr).trans (not_lt.mp hng)⟩⟩

/-- the selected operation is a candidate with maximal score delta -/
theorem C11_best_is_max (s : ScoreTab) (o : HCOpts) (tabu : List HOp) (g : DG) (b : HOp × Rat)
    (h : bestOp (legalOps s o tabu g) = some b) :
    b ∈ legalOps s o tabu g ∧ ∀ p ∈ legalOps s o tabu g, p.2 ≤ b.2 :=
  bestOp_spec _ b h

/-- what being a candidate means for acyclicity -/
inductive Legal (g : DG) : HOp → Prop
  | add {x y} : x ∈ g.nodes → y ∈ g.nodes → x ≠ y → hasPathG g y x = false → Legal g (.add x y)
  | rem {x y} : (x, y) ∈ g.edges → Legal g (.rem x y)
  | flip {x y} : (x, y) ∈ g.edges → hasPathG (removeEdge g (x, y)) x y = false → Legal g (.flip x y)

/-- what being a candidate means for the edge lists -/
def ListOk (o : HCOpts) : HOp → Prop
  | .add x y => o.black.contains (x, y) = false ∧ o.isWhite (x, y) = true
  | .rem x y => o.fixed.contains (x, y) = false
  | .flip x y => o.fixed.contains (x, y) = false ∧ o.black.contains (y, x) = false ∧ o.isWhite (y, x) = true

/-- what being a candidate means for the in-degree limit -/
def IndegOk (o : HCOpts) (g : DG) : HOp → Prop
  | .add _ y => o.indegOk ((g.parents y).length + 1) = true
  | .rem _ _ => True
  | .flip x _ => o.indegOk ((g.parents x).length + 1) = true

/-- the score change the search attributes to an operation -/
def deltaOf (s : ScoreTab) (g : DG) : HOp → Rat
  | .add x y => s.local y (g.parents y ++ [x]) - s.local y (g.parents y)
  | .rem x y => s.local y ((g.parents y).filter (· != x)) - s.local y (g.parents y)
  | .flip x y => s.local x (g.parents x ++ [y]) + s.local y ((g.parents y).filter (· != x))
      - s.local x (g.parents x) - s.local y (g.parents y)

theorem mem_legalOps {s : ScoreTab} {o : HCOpts} {tabu : List HOp} {g : DG} {p : HOp × Rat}
    (h : p ∈ legalOps s o tabu g) :
    Legal g p.1 ∧ ListOk o p.1 ∧ IndegOk o g p.1 ∧ p.2 = deltaOf s g p.1 := by
  -- each nested `if … then none else …` is `some a` exactly when the guards fail in order
  simp only [legalOps, List.mem_append, List.mem_filterMap, List.mem_flatMap, Prod.exists,
    Option.ite_none_left_eq_some, Option.ite_none_right_eq_some, Option.some.injEq,
    Bool.or_eq_true, not_or, Bool.not_eq_true, Bool.not_eq_false', bne_iff_ne, Prod.mk.injEq] at h
  -- an addition, a removal or a flip of `x → y`: the pair, then the guards in the order of `legalOps`, then `p`
  rcases h with (⟨x, y, ⟨_, hx, _, hy, hne, rfl, rfl⟩, _, hnp, ⟨⟨_, hb⟩, hwh⟩, hin, rfl⟩ |
      ⟨x, y, hxy, ⟨_, hf⟩, rfl⟩) | ⟨x, y, hxy, hnp, ⟨⟨⟨_, hf⟩, hb⟩, hwh⟩, hin, rfl⟩
  · exact ⟨.add hx hy hne hnp, ⟨hb, hwh⟩, hin, rfl⟩
  · exact ⟨.rem hxy, hf, trivial, rfl⟩
  · exact ⟨.flip hxy hnp, ⟨hf, hb, hwh⟩, hin, rfl⟩

theorem mem_addEdge {g : DG} {e e' : Var × Var} : e ∈ (addEdge g e').edges ↔ e ∈ g.edges ∨ e = e' := by
  simp [addEdge]

theorem mem_removeEdge {g : DG} {e e' : Var × Var} : e ∈ (removeEdge g e').edges ↔ e ∈ g.edges ∧ e ≠ e' := by
  simp [removeEdge]

theorem DG.WFG.addEdge {g : DG} (hw : g.WFG) {u v : Var} (hu : u ∈ g.nodes) (hv : v ∈ g.nodes) :
    (addEdge g (u, v)).WFG := fun e he =>
  (mem_addEdge.mp he).elim (hw e) fun h => by rw [h]; exact ⟨hu, hv⟩

theorem DG.WFG.removeEdge {g : DG} (hw : g.WFG) (e : Var × Var) : (removeEdge g e).WFG :=
  hw.mono (fun _ h => h) fun _ h => (mem_removeEdge.mp h).1

theorem acyclic_removeEdge {g : DG} (h : Acyclic g.edges) (e : Var × Var) : Acyclic (removeEdge g e).edges :=
  acyclic_sub (fun _ h => (mem_removeEdge.mp h).1) h

/-- applying a candidate operation keeps the graph well-formed and acyclic -/
theorem C11_apply_acyclic (g : DG) (hw : g.WFG) (hac : Acyclic g.edges) (op : HOp) (hl : Legal g op) :
    (applyOp g op).WFG ∧ Acyclic (applyOp g op).edges ∧ (applyOp g op).nodes = g.nodes := by
  have hadd : ∀ {g : DG} {x y}, g.WFG → Acyclic g.edges → x ∈ g.nodes → y ∈ g.nodes → hasPathG g y x = false →
      (addEdge g (x, y)).WFG ∧ Acyclic (addEdge g (x, y)).edges ∧ (addEdge g (x, y)).nodes = g.nodes :=
    fun hw hac hx hy hnp => ⟨hw.addEdge hx hy, acyclic_add_edge _ _ _ hac fun hp =>
      Bool.false_ne_true (hnp.symm.trans ((hasPathG_iff _ hw _ _).mpr hp)), rfl⟩
  -- a flip removes the edge and then adds its reverse
  cases hl with
  | add hx hy _ hnp => exact hadd hw hac hx hy hnp
  | rem _ => exact ⟨hw.removeEdge _, acyclic_removeEdge hac _, rfl⟩
  | flip hxy hnp => exact hadd (hw.removeEdge _) (acyclic_removeEdge hac _) (hw _ hxy).2 (hw _ hxy).1 hnp

/-- induction along `hcLoop`.  `P n st r`: running from `st` with fuel `n` may end in `r`.  `stop` says why the
    loop ends where it is (`n = 0 ∨ …`): `C11_loop_stops_below_eps` needs the second reason and rules out the
    first; the other users ignore it -/
theorem hcLoop_induction {s : ScoreTab} {o : HCOpts} {P : Nat → HCState → HCState → Prop}
    (stop : ∀ n st, (n = 0 ∨ ∀ p ∈ legalOps s o st.tabu st.g, p.2 < o.eps) → P n st st)
    (step : ∀ n st op d r, (op, d) ∈ legalOps s o st.tabu st.g → ¬ d < o.eps →
      P n { g := applyOp st.g op, tabu := tabuPush o.tabuLen st.tabu (tabuEntry op),
            trace := st.trace ++ [(op, d)], tie := st.tie || hasTie (legalOps s o st.tabu st.g) } r →
      P (n + 1) st r)
    (n : Nat) (st : HCState) : P n st (hcLoop s o n st) := by
  induction n generalizing st with
  | zero => exact stop 0 st (.inl rfl)
  | succ n ih =>
    simp only [hcLoop]
    split
    · next hb => exact stop _ st (.inr (by rw [bestOp_eq_none hb]; exact fun _ hp => nomatch hp))
    · next op d hb =>
      obtain ⟨hmem, hmax⟩ := bestOp_spec _ _ hb
      split
      · next hd => exact stop _ st (.inr fun p hp => lt_of_le_of_lt (hmax p hp) hd)
      · next hd => exact step n st op d _ hmem hd (ih _)

/-- **the search loop returns an acyclic graph** from every acyclic start, for every local
    score, black/white/fixed lists, in-degree bound, tabu length, epsilon and iteration bound -/
theorem C11_hc_acyclic (s : ScoreTab) (o : HCOpts) : ∀ (fuel : Nat) (st : HCState),
    st.g.WFG → Acyclic st.g.edges →
    (hcLoop s o fuel st).g.WFG ∧ Acyclic (hcLoop s o fuel st).g.edges ∧ (hcLoop s o fuel st).g.nodes = st.g.nodes := by
  refine hcLoop_induction (P := fun _ st r => st.g.WFG → Acyclic st.g.edges →
    r.g.WFG ∧ Acyclic r.g.edges ∧ r.g.nodes = st.g.nodes) (fun _ _ _ hw hac => ⟨hw, hac, rfl⟩) ?_
  intro n st op d r hmem _ ih hw hac
  obtain ⟨h1, h2, h3⟩ := C11_apply_acyclic st.g hw hac op (mem_legalOps hmem).1
  obtain ⟨i1, i2, i3⟩ := ih h1 h2
  exact ⟨i1, i2, i3.trans h3⟩

theorem length_tabuPush (len : Nat) (tabu : List HOp) (e : HOp) : (tabuPush len tabu e).length ≤ len := by
  unfold tabuPush
  rw [List.length_drop]
  exact tsub_tsub_le

/-- **iteration bound and tabu length**: the loop applies at most `max_iter` operations (the trace grows by at most
    the iteration budget) and the tabu list never holds more than `tabu_length` entries - for every score table,
    option set and start state -/
theorem C11_hc_budget (s : ScoreTab) (o : HCOpts) : ∀ (fuel : Nat) (st : HCState),
    st.tabu.length ≤ o.tabuLen →
    (hcLoop s o fuel st).trace.length ≤ st.trace.length + fuel ∧ (hcLoop s o fuel st).tabu.length ≤ o.tabuLen := by
  refine hcLoop_induction (P := fun n st r => st.tabu.length ≤ o.tabuLen →
    r.trace.length ≤ st.trace.length + n ∧ r.tabu.length ≤ o.tabuLen)
    (fun _ _ _ ht => ⟨Nat.le_add_right _ _, ht⟩) ?_
  intro n st op d r _ _ ih ht
  obtain ⟨i1, i2⟩ := ih (length_tabuPush _ _ _)
  rw [List.length_append, List.length_singleton] at i1
  exact ⟨by omega, i2⟩

/-- when the loop stops before using up its iterations, no candidate operation would improve
    the score by epsilon or more (a local optimum w.r.t. the final tabu list) -/
theorem C11_loop_stops_below_eps (s : ScoreTab) (o : HCOpts) : ∀ (fuel : Nat) (st : HCState),
    (hcLoop s o fuel st).trace.length < st.trace.length + fuel →
    ∀ p ∈ legalOps s o (hcLoop s o fuel st).tabu (hcLoop s o fuel st).g, p.2 < o.eps := by
  refine hcLoop_induction (P := fun n st r => r.trace.length < st.trace.length + n →
    ∀ p ∈ legalOps s o r.tabu r.g, p.2 < o.eps) ?_ ?_
  · rintro n st (rfl | h) hlt
    · exact absurd hlt (Nat.lt_irrefl _)
    · exact h
  · intro n st op d r _ _ ih hlt
    apply ih
    rw [List.length_append, List.length_singleton]
    omega

theorem applyOp_keeps_fixed (o : HCOpts) (g : DG) (op : HOp) (hl : ListOk o op) (e : Var × Var)
    (hf : e ∈ o.fixed) (he : e ∈ g.edges) : e ∈ (applyOp g op).edges := by
  have hne : ∀ e', o.fixed.contains e' = false → e ≠ e' := fun e' h' heq =>
    absurd (heq ▸ hf) (by simpa using h')
  cases op with
  | add x y => exact mem_addEdge.mpr (.inl he)
  | rem x y => exact mem_removeEdge.mpr ⟨he, hne _ hl⟩
  | flip x y => exact mem_addEdge.mpr (.inl (mem_removeEdge.mpr ⟨he, hne _ hl.1⟩))

theorem applyOp_new_allowed (o : HCOpts) (g : DG) (op : HOp) (hl : ListOk o op) (e : Var × Var)
    (he : e ∈ (applyOp g op).edges) : e ∈ g.edges ∨ (o.black.contains e = false ∧ o.isWhite e = true) := by
  cases op with
  | add x y => exact (mem_addEdge.mp he).imp_right fun (h : e = (x, y)) => h ▸ hl
  | rem x y => exact .inl (mem_removeEdge.mp he).1
  | flip x y => exact (mem_addEdge.mp he).imp (fun h => (mem_removeEdge.mp h).1) fun (h : e = (y, x)) => h ▸ hl.2

/-- **the lists are honoured**: every fixed edge of the start graph is still present, and every
    edge of the result was in the start graph or is neither black-listed nor outside the white
    list — for every score table, tabu length, epsilon and iteration bound -/
theorem C11_hc_lists (s : ScoreTab) (o : HCOpts) : ∀ (fuel : Nat) (st : HCState),
    (∀ e ∈ o.fixed, e ∈ st.g.edges → e ∈ (hcLoop s o fuel st).g.edges) ∧
    (∀ e ∈ (hcLoop s o fuel st).g.edges, e ∈ st.g.edges ∨
        (o.black.contains e = false ∧ o.isWhite e = true)) := by
  refine hcLoop_induction (P := fun _ st r => (∀ e ∈ o.fixed, e ∈ st.g.edges → e ∈ r.g.edges) ∧
    ∀ e ∈ r.g.edges, e ∈ st.g.edges ∨ (o.black.contains e = false ∧ o.isWhite e = true))
    (fun _ _ _ => ⟨fun _ _ h => h, fun _ h => .inl h⟩) ?_
  intro n st op d r hmem _ ⟨i1, i2⟩
  have hl := (mem_legalOps hmem).2.1
  exact ⟨fun e hf he => i1 e hf (applyOp_keeps_fixed o st.g op hl e hf he),
    fun e he => (i2 e he).elim (applyOp_new_allowed o st.g op hl e) .inr⟩

theorem parents_addEdge (g : DG) (x y v : Var) :
    (addEdge g (x, y)).parents v = g.parents v ++ (if y = v then [x] else []) := by
  unfold addEdge DG.parents
  simp only [List.filter_append, List.map_append]
  congr 1
  by_cases h : y = v
  · simp [h]
  · simp [h]

theorem parents_removeEdge (g : DG) (x y v : Var) :
    (removeEdge g (x, y)).parents v = if y = v then (g.parents v).filter (· != x) else g.parents v := by
  unfold removeEdge DG.parents
  -- filter the edges into `v` first: among them `· ≠ (x, y)` says `y ≠ v` or the source is not `x`
  have hv : ∀ e ∈ g.edges.filter (fun e => e.2 == v), e.2 = v := fun e he =>
    beq_iff_eq.mp (List.mem_filter.mp he).2
  rw [List.filter_comm]
  split
  · next h =>
    rw [List.filter_map]
    refine congrArg _ (List.filter_congr fun e he => ?_)
    rw [Bool.eq_iff_iff, Function.comp_apply, bne_iff_ne, bne_iff_ne, ne_eq, Prod.ext_iff, hv e he, h]
    exact not_congr (and_iff_left rfl)
  · next h =>
    refine congrArg _ (List.filter_eq_self.mpr fun e he => bne_iff_ne.mpr fun heq => h ?_)
    rw [← hv e he, heq]

theorem sum_change_one (l : List Var) (hn : l.Nodup) (y : Var) (hy : y ∈ l) (f f' : Var → Rat)
    (h : ∀ v, v ≠ y → f' v = f v) : (l.map f').sum = (l.map f).sum + (f' y - f y) := by
  -- split off the term at `y`; the rest of the list does not contain `y`, so there `f'` and `f` agree
  have e : (l.erase y).map f' = (l.erase y).map f :=
    List.map_congr_left fun v hv => h v (hn.mem_erase_iff.mp hv).1
  rw [← List.sum_map_erase f' hy, ← List.sum_map_erase f hy, e]
  ring

theorem totalScore_change (s : ScoreTab) {g g' : DG} (hn : g.nodes.Nodup) (hg : g'.nodes = g.nodes) {y : Var}
    (hy : y ∈ g.nodes) (h : ∀ v, v ≠ y → g'.parents v = g.parents v) :
    totalScore s g' = totalScore s g + (s.local y (g'.parents y) - s.local y (g.parents y)) := by
  unfold totalScore
  rw [hg]
  exact sum_change_one g.nodes hn y hy _ (fun v => s.local v (g'.parents v)) fun v hv => by rw [h v hv]

/-- the end points an operation refers to are nodes of the graph (and distinct for a flip) -/
def EndOk (g : DG) : HOp → Prop
  | .add _ y => y ∈ g.nodes
  | .rem _ y => y ∈ g.nodes
  | .flip x y => x ∈ g.nodes ∧ y ∈ g.nodes ∧ x ≠ y

/-- **reported delta = score(after) − score(before)** for a decomposable score, for every
    operation (the node list has no duplicates and contains the edge's end points) -/
theorem C11_delta_exact (s : ScoreTab) (g : DG) (hn : g.nodes.Nodup) (op : HOp) (hend : EndOk g op) :
    totalScore s (applyOp g op) = totalScore s g + deltaOf s g op := by
  have hadd : ∀ (g : DG) x y, g.nodes.Nodup → y ∈ g.nodes → totalScore s (addEdge g (x, y)) =
      totalScore s g + (s.local y (g.parents y ++ [x]) - s.local y (g.parents y)) := fun g x y hn hy => by
    rw [totalScore_change s (g' := addEdge g (x, y)) hn rfl hy
      fun v hv => by rw [parents_addEdge, if_neg hv.symm, List.append_nil], parents_addEdge, if_pos rfl]
  have hrem : ∀ x y, y ∈ g.nodes → totalScore s (removeEdge g (x, y)) =
      totalScore s g + (s.local y ((g.parents y).filter (· != x)) - s.local y (g.parents y)) := fun x y hy => by
    rw [totalScore_change s (g' := removeEdge g (x, y)) hn rfl hy
      fun v hv => by rw [parents_removeEdge, if_neg hv.symm], parents_removeEdge, if_pos rfl]
  cases op with
  | add x y => exact hadd g x y hn hend
  | rem x y => exact hrem x y hend
  | flip x y =>
    obtain ⟨hx, hy, hxy⟩ := hend
    show totalScore s (addEdge (removeEdge g (x, y)) (y, x)) = _
    rw [hadd (removeEdge g (x, y)) y x hn hx, hrem x y hy, parents_removeEdge, if_neg fun e => hxy e.symm]
    unfold deltaOf
    ring

theorem Legal.endOk {g : DG} (hw : g.WFG) (hac : Acyclic g.edges) {op : HOp} (hl : Legal g op) : EndOk g op := by
  cases hl with
  | add _ hy _ _ => exact hy
  | rem hxy => exact (hw _ hxy).2
  | @flip x y hxy _ => exact ⟨(hw _ hxy).1, (hw _ hxy).2, fun e => hac x (.single (e ▸ hxy))⟩

/-- **the score never decreases** when epsilon ≥ 0: the result's total score is at least the start
    graph's, for every decomposable local score -/
theorem C11_hc_monotone (s : ScoreTab) (o : HCOpts) (heps : 0 ≤ o.eps) : ∀ (fuel : Nat) (st : HCState),
    st.g.WFG → Acyclic st.g.edges → st.g.nodes.Nodup →
    totalScore s st.g ≤ totalScore s (hcLoop s o fuel st).g := by
  refine hcLoop_induction (P := fun _ st r => st.g.WFG → Acyclic st.g.edges → st.g.nodes.Nodup →
    totalScore s st.g ≤ totalScore s r.g) (fun _ _ _ _ _ _ => le_refl _) ?_
  intro n st op d r hmem hd ih hw hac hn
  obtain ⟨hl, _, _, hdelta⟩ := mem_legalOps hmem
  obtain ⟨h1, h2, h3⟩ := C11_apply_acyclic st.g hw hac op hl
  have hge : 0 ≤ deltaOf s st.g op := hdelta ▸ heps.trans (not_lt.mp hd)
  calc totalScore s st.g ≤ totalScore s st.g + deltaOf s st.g op := le_add_of_nonneg_right hge
    _ = totalScore s (applyOp st.g op) := (C11_delta_exact s st.g hn op (hl.endOk hw hac)).symm
    _ ≤ _ := ih h1 h2 (h3 ▸ hn)

theorem length_parents_removeEdge_le (g : DG) (e : Var × Var) (v : Var) :
    ((removeEdge g e).parents v).length ≤ (g.parents v).length := by
  rw [parents_removeEdge]
  split
  · exact List.length_filter_le _ _
  · exact Nat.le_refl _

theorem applyOp_indeg (o : HCOpts) (m : Nat) (ho : o.maxIndeg = some m) (g : DG) (op : HOp)
    (hall : ∀ v, (g.parents v).length ≤ m) (hop : IndegOk o g op) :
    ∀ v, ((applyOp g op).parents v).length ≤ m := by
  have hdec : ∀ n, o.indegOk n = true → n ≤ m := fun n hn => by simpa [HCOpts.indegOk, ho] using hn
  have hadd : ∀ (g : DG) x y v, (g.parents v).length ≤ m → (g.parents y).length + 1 ≤ m →
      ((addEdge g (x, y)).parents v).length ≤ m := fun g x y v hv hy => by
    rw [parents_addEdge]
    split
    · next e => subst e; rw [List.length_append]; exact hy
    · rw [List.append_nil]; exact hv
  intro v
  cases op with
  | add x y => exact hadd g x y v (hall v) (hdec _ hop)
  | rem x y => exact (length_parents_removeEdge_le g _ v).trans (hall v)
  | flip x y =>
    exact hadd _ y x v ((length_parents_removeEdge_le g _ v).trans (hall v))
      ((Nat.add_le_add_right (length_parents_removeEdge_le g _ x) 1).trans (hdec _ hop))

/-- **the in-degree limit is honoured**: with `max_indegree = m`, if no node of the start graph has more than `m`
    parents then no node of any graph the search visits — in particular of the result — has more than `m` parents,
    for every score table, tabu length, epsilon and iteration bound -/
theorem C11_hc_indegree (s : ScoreTab) (o : HCOpts) (m : Nat) (ho : o.maxIndeg = some m) : ∀ (fuel : Nat) (st : HCState),
    (∀ v, (st.g.parents v).length ≤ m) → ∀ v, ((hcLoop s o fuel st).g.parents v).length ≤ m :=
  hcLoop_induction (P := fun _ st r => (∀ v, (st.g.parents v).length ≤ m) → ∀ v, (r.g.parents v).length ≤ m)
    (fun _ _ _ h => h)
    (fun _ st op _ _ hmem _ ih h => ih (applyOp_indeg o m ho st.g op h (mem_legalOps hmem).2.2.1))

/-- non-vacuity: an in-degree limit of 1 and a start graph with one edge meet the hypotheses -/
example : ∀ v, ((DG.mk [0, 1, 2] [(0, 1)]).parents v).length ≤ 1 := by
  intro v
  unfold DG.parents
  rw [List.length_map]
  exact List.length_filter_le _ _

/-- non-vacuity: the empty start graph meets the hypotheses of `C11_hc_acyclic` -/
example : (DG.mk [0, 1, 2] []).WFG ∧ Acyclic (DG.mk [0, 1, 2] []).edges :=
  ⟨fun e he => (by cases he), acyclic_nil⟩

/-- extraction tie: the defaults of `HillClimbSearch.estimate` (epsilon 1e-4, max_iter 1e6, tabu_length 100) under which the
    black-box streams run the implementation are the ones read from the source -/
theorem C11_defaults_tie :
    Generated.hcDefaults = [("epsilon", 1, 10000), ("max_iter", 1000000, 1), ("tabu_length", 100, 1)] := rfl

/-- a weight function on another positive scale ranks all edge sets (hence all spanning trees) the same way: the tree stream hands
    the implementation `c * w` and the specification `w` -/
theorem C11_tree_scale_invariant (c : Rat) (hc : 0 < c) (t1 t2 : List ((Var × Var) × Rat)) :
    (t1.map (·.2)).sum ≤ (t2.map (·.2)).sum ↔
    (t1.map (fun e => c * e.2)).sum ≤ (t2.map (fun e => c * e.2)).sum := by
  rw [List.sum_map_mul_left, List.sum_map_mul_left]
  exact (mul_le_mul_iff_of_pos_left hc).symm

end PgmVerif
