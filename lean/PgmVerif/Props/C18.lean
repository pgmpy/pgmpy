/-
  Props/C18.lean — independence reasoning: assertions up to symmetry; the semi-graphoid closure (extensive, closed
  once it has stabilised, nothing underivable enters it, and whatever it contains holds in every non-negative
  table in which the input holds — by the rules of Proofs/CI.lean); the product test for conditional
  independence; I-equivalence as a relation.
-/
import PgmVerif.Model.Indep
import PgmVerif.Proofs.CI
namespace PgmVerif

theorem IA.swap_swap (a : IA) : a.swap.swap = a := by cases a; rfl

theorem IA.same_iff {a b : IA} : IA.same a b = true ↔ a = b ∨ a.swap = b := by
  simp only [IA.same, Bool.or_eq_true, beq_iff_eq]

/-- equality of assertions up to symmetry is an equivalence relation (what `__eq__` / `__hash__`
    of `IndependenceAssertion` implement) -/
theorem C18_same_equiv (a b c : IA) :
    IA.same a a = true ∧ (IA.same a b = true → IA.same b a = true) ∧
    (IA.same a b = true → IA.same b c = true → IA.same a c = true) := by
  refine ⟨IA.same_iff.mpr (Or.inl rfl), ?_, ?_⟩
  · rw [IA.same_iff, IA.same_iff]
    rintro (rfl | rfl)
    · exact Or.inl rfl
    · exact Or.inr (IA.swap_swap a)
  · rw [IA.same_iff, IA.same_iff, IA.same_iff]
    rintro (rfl | rfl) (rfl | rfl)
    · exact Or.inl rfl
    · exact Or.inr rfl
    · exact Or.inr rfl
    · exact Or.inl (IA.swap_swap a).symm

theorem sgClosure_induct (Q : List IA → Prop) (step : ∀ S, Q S → Q (S ++ sgNew S)) (fuel : Nat) (S : List IA)
    (h : Q S) : Q (sgClosure fuel S) := by
  induction fuel generalizing S with
  | zero => exact h
  | succ n ih =>
    simp only [sgClosure]
    split
    · exact h
    · exact ih _ (step S h)

/-- the closure contains the assertions it started from -/
theorem C18_closure_extensive : ∀ (fuel : Nat) (S : List IA) (a : IA), a ∈ S → a ∈ sgClosure fuel S :=
  fun fuel S a h => sgClosure_induct (a ∈ ·) (fun _ h => List.mem_append_left _ h) fuel S h

theorem memSame_append (l l' : List IA) (a : IA) : memSame (l ++ l') a = (memSame l a || memSame l' a) :=
  List.any_append

theorem memSame_cons_self (a : IA) (l : List IA) : memSame (a :: l) a = true := by
  rw [memSame, List.any_cons, IA.same_iff.mpr (Or.inl rfl), Bool.true_or]

/-- the fold of `sgNew`: it returns the accumulator extended by some candidates `t ⊆ l`, after which every candidate of `l`
    is present up to symmetry -/
theorem sgNew_fold_spec (S : List IA) (l acc : List IA) : ∃ t,
    l.foldl (fun acc a => if memSame S a || memSame acc a then acc else acc ++ [a]) acc = acc ++ t ∧ t ⊆ l ∧
      ∀ a ∈ l, memSame (S ++ (acc ++ t)) a = true := by
  induction l generalizing acc with
  | nil => exact ⟨[], (List.append_nil _).symm, List.Subset.refl _, fun _ h => nomatch h⟩
  | cons b l ih =>
    simp only [List.foldl_cons]
    split
    · next hb =>
      obtain ⟨t, e, hs, hc⟩ := ih acc
      refine ⟨t, e, fun x hx => List.mem_cons_of_mem _ (hs hx), List.forall_mem_cons.mpr ⟨?_, hc⟩⟩
      rw [memSame_append, memSame_append, ← Bool.or_assoc, hb, Bool.true_or]
    · obtain ⟨t, e, hs, hc⟩ := ih (acc ++ [b])
      rw [List.append_assoc] at e hc
      refine ⟨b :: t, e, List.cons_subset_cons _ hs, List.forall_mem_cons.mpr ⟨?_, hc⟩⟩
      rw [memSame_append, memSame_append, memSame_cons_self, Bool.or_true, Bool.or_true]

/-- **closed under the semi-graphoid rules**: once the iteration has stabilised, every valid
    one-step consequence (symmetry, decomposition, weak union of one assertion; contraction of
    two) of members of the closure is already in it, up to symmetry -/
theorem C18_closure_closed (C : List IA) (hfix : sgNew C = []) (a : IA) (ha : a ∈ sgStep C) :
    memSame C a = true := by
  obtain ⟨t, e, _, hc⟩ := sgNew_fold_spec C (sgStep C) []
  have e' : sgNew C = [] ++ t := e
  rw [← e', hfix, List.append_nil] at hc
  exact hc a ha

/-- derivability from `S0` by the semi-graphoid rules as the model applies them (symmetry is built into
    `IA.single` / `IA.pair`, which also try the swapped premises) -/
inductive Derivable (S0 : List IA) : IA → Prop
  | base (a : IA) : a ∈ S0 → Derivable S0 a
  | single (a b : IA) : Derivable S0 a → b ∈ a.single → Derivable S0 b
  | pair (a b c : IA) : Derivable S0 a → Derivable S0 b → c ∈ IA.pair a b → Derivable S0 c

theorem sgNew_subset (S : List IA) : sgNew S ⊆ sgStep S := by
  obtain ⟨t, e, hs, _⟩ := sgNew_fold_spec S (sgStep S) []
  rw [sgNew, e]
  exact hs

theorem sgStep_derivable (S0 S : List IA) (hS : ∀ a ∈ S, Derivable S0 a) (x : IA) (hx : x ∈ sgStep S) :
    Derivable S0 x := by
  unfold sgStep at hx
  have hx' := (List.mem_filter.mp hx).1
  rcases List.mem_append.mp hx' with h | h
  · obtain ⟨a, ha, hxa⟩ := List.mem_flatMap.mp h
    exact Derivable.single a x (hS a ha) hxa
  · obtain ⟨a, ha, h2⟩ := List.mem_flatMap.mp h
    obtain ⟨b, hb, hxab⟩ := List.mem_flatMap.mp h2
    exact Derivable.pair a b x (hS a ha) (hS b hb) hxab

/-- **soundness / minimality of the closure**: every assertion the iteration ever adds is derivable from the
    given assertions by decomposition, weak union, contraction and symmetry — for every fuel, i.e. at every
    stage of the iteration -/
theorem C18_closure_sound (S0 : List IA) : ∀ (fuel : Nat) (S : List IA), (∀ a ∈ S, Derivable S0 a) →
    ∀ a ∈ sgClosure fuel S, Derivable S0 a :=
  sgClosure_induct _ fun S hS b hb => (List.mem_append.mp hb).elim (hS b)
    fun h => sgStep_derivable S0 S hS b (sgNew_subset S h)

theorem mem_sortDedup (l : List Nat) (v : Nat) : v ∈ sortDedup l ↔ v ∈ l := by
  unfold sortDedup
  rw [List.mem_eraseDups, List.mem_mergeSort]

/-- the assertion holds in the joint table `P` over the variables `V` -/
def IA.Holds (K : Var → Nat) (V : List Var) (P : Asg → Rat) (a : IA) : Prop := CI K V P a.x a.y a.z
/-- the two sides of an assertion share no variable -/
def IA.Disj (a : IA) : Prop := ∀ v, v ∈ a.x → v ∉ a.y

section
variable {K : Var → Nat} {V : List Var} {P : Asg → Rat}

/-- what every rule preserves; decomposition and weak union need the two sides disjoint, so that is carried along -/
def IA.Sound (K : Var → Nat) (V : List Var) (P : Asg → Rat) (a : IA) : Prop := a.Holds K V P ∧ a.Disj

theorem IA.Sound.swap {a : IA} (h : a.Sound K V P) : a.swap.Sound K V P :=
  ⟨CI_symm K V P a.x a.y a.z h.1, fun v hy hx => h.2 v hx hy⟩

theorem IA.sound_mk' {x y z : List Var} (h : CI K V P x y z) (hd : ∀ v ∈ x, v ∉ y) : (IA.mk' x y z).Sound K V P :=
  ⟨CI_congr K V P (fun v => (mem_sortDedup _ v).symm) (fun v => (mem_sortDedup _ v).symm)
    (fun v => (mem_sortDedup _ v).symm) h,
   fun v hx hy => hd v ((mem_sortDedup _ v).mp hx) ((mem_sortDedup _ v).mp hy)⟩

theorem shrinkRight_sound (hP : NonnegB K P) (a b : IA) (ha : a.Sound K V P) (hb : b ∈ a.shrinkRight) :
    b.Sound K V P := by
  obtain ⟨ha, hd⟩ := ha
  unfold IA.shrinkRight at hb
  split at hb
  · cases hb
  · obtain ⟨e, he, hb⟩ := List.mem_flatMap.mp hb
    have hsub : ∀ v, v ∈ a.y.filter (· != e) → v ∈ a.y := fun v hv => (List.mem_filter.mp hv).1
    have hd' : ∀ v ∈ a.x, v ∉ a.y.filter (· != e) := fun v hx hy => hd v hx (hsub v hy)
    simp only [List.mem_cons, List.not_mem_nil, or_false] at hb
    rcases hb with rfl | rfl
    · exact IA.sound_mk' (CI_decomposition K V P _ _ _ _ hsub hd ha) hd'
    · refine IA.sound_mk' (CI_weak_union K V P hP a.x a.y _ [e] a.z (fun v => ?_) hd ha) hd'
      by_cases h : v = e <;> simp [h, he]

theorem single_sound (hP : NonnegB K P) (a b : IA) (ha : a.Sound K V P) (hb : b ∈ a.single) : b.Sound K V P :=
  (List.mem_append.mp hb).elim (shrinkRight_sound hP a b ha) (shrinkRight_sound hP a.swap b ha.swap)

theorem contract1_sound (hP : NonnegB K P) (a b c : IA) (ha : a.Sound K V P) (hb : b.Sound K V P)
    (hc : c ∈ IA.contract1 a b) : c.Sound K V P := by
  unfold IA.contract1 at hc
  split at hc
  · next hcond =>
    simp only [Bool.and_eq_true, beq_iff_eq] at hcond
    obtain ⟨⟨hx, hz⟩, _⟩ := hcond
    rw [List.mem_singleton.mp hc]
    have h1 : CI K V P a.x a.y (b.z ++ b.y) :=
      CI_congr K V P (fun _ => Iff.rfl) (fun _ => Iff.rfl) (fun v => by rw [← hz, mem_sortDedup]) ha.1
    refine IA.sound_mk' (CI_contraction K V P hP a.x b.y a.y b.z h1 (hx ▸ hb.1)) fun v hvx hvy => ?_
    exact (List.mem_append.mp hvy).elim (ha.2 v hvx) (hb.2 v (hx ▸ hvx))
  · cases hc

theorem pair_sound (hP : NonnegB K P) (a b c : IA) (ha : a.Sound K V P) (hb : b.Sound K V P)
    (hc : c ∈ IA.pair a b) : c.Sound K V P := by
  unfold IA.pair at hc
  simp only [List.mem_append] at hc
  rcases hc with ((h | h) | h) | h
  · exact contract1_sound hP a b c ha hb h
  · exact contract1_sound hP a b.swap c ha hb.swap h
  · exact contract1_sound hP a.swap b c ha.swap hb h
  · exact contract1_sound hP a.swap b.swap c ha.swap hb.swap h

theorem derivable_sound (hP : NonnegB K P) (S0 : List IA) (h0 : ∀ a ∈ S0, a.Sound K V P) (a : IA)
    (hder : Derivable S0 a) : a.Sound K V P := by
  induction hder with
  | base a h => exact h0 a h
  | single a b _ hb ih => exact single_sound hP a b ih hb
  | pair a b c _ _ hc iha ihb => exact pair_sound hP a b c iha ihb hc

end

/-- **the closure is semantically sound**: let `P` be ANY non-negative table over the variables `V` in which
    every given assertion holds (X and Y of each being disjoint). Then every assertion that the closure
    iteration ever produces holds in `P` too — independence reasoning never concludes something false. -/
theorem C18_closure_semantically_sound (K : Var → Nat) (V : List Var) (P : Asg → Rat) (hP : NonnegB K P)
    (S0 : List IA) (h0 : ∀ a ∈ S0, a.Holds K V P ∧ a.Disj) (fuel : Nat) (a : IA) (ha : a ∈ sgClosure fuel S0) :
    a.Holds K V P :=
  (derivable_sound hP S0 h0 a (C18_closure_sound S0 fuel S0 (fun b hb => Derivable.base b hb) a ha)).1

/-- non-vacuity: the uniform table over two binary variables satisfies 0 ⟂ 1 -/
example : (IA.mk [0] [1] []).Holds (fun _ => 2) [0, 1] (fun _ => 1) ∧ (IA.mk [0] [1] []).Disj ∧
    NonnegB (fun _ => 2) (fun _ => (1 : Rat)) := by
  refine ⟨fun a _ => ?_, fun v hx hy => ?_, fun _ _ => zero_le_one⟩
  · -- the four marginals of the constant table, unfolded: 1 · 4 = 2 · 2
    show (1 : Rat) * (1 + (1 + 0) + (1 + (1 + 0) + 0)) = (1 + (1 + 0)) * (1 + (1 + 0))
    norm_num
  · rw [List.mem_singleton] at hx hy
    exact absurd (hx.symm.trans hy) (by decide)

/-- the product test: P(x,y,z)·P(z) = P(x,z)·P(y,z) is exactly P(x,y | z) = P(x | z)·P(y | z)
    wherever P(z) > 0 (and holds trivially where P(z) = 0 since all terms vanish) -/
theorem C18_ci_product_form (pxyz pxz pyz pz : Rat) (hz : pz ≠ 0) :
    pxyz * pz = pxz * pyz ↔ pxyz / pz = (pxz / pz) * (pyz / pz) := by
  rw [div_mul_div_comm, div_eq_div_iff hz (mul_ne_zero hz hz), ← mul_assoc, mul_left_inj' hz]

/-- the product test is homogeneous: a context of probability 1e-7 and the same context with probability 1/2 (every entry of the slice
    multiplied by the same non-zero number) get the same verdict, exactly - only a tolerance that is *absolute* can tell them apart -/
theorem C18_ci_scale_invariant (c pxyz pxz pyz pz : Rat) (hc : c ≠ 0) :
    (c * pxyz) * (c * pz) = (c * pxz) * (c * pyz) ↔ pxyz * pz = pxz * pyz := by
  rw [mul_mul_mul_comm, mul_mul_mul_comm c pxz, mul_right_inj' (mul_ne_zero hc hc)]

/-- **independence does not see the normalising constant**: a table and any non-zero multiple of it (the joint restricted to a
    context before and after `normalize`, however improbable the context) satisfy exactly the same statements X ⟂ Y | Z -/
theorem C18_ci_unnormalised (K : Var → Nat) (V : List Var) (P : Asg → Rat) (c : Rat) (hc : c ≠ 0) (X Y Z : List Var) :
    CI K V (fun b => c * P b) X Y Z ↔ CI K V P X Y Z := by
  simp only [CI, marg_const_mul]
  exact forall₂_congr fun a _ => C18_ci_scale_invariant c _ _ _ _ hc

theorem sameSetBy_comm {α : Type} [BEq α] (a b : List α) : sameSetBy a b = sameSetBy b a := by
  unfold sameSetBy; exact Bool.and_comm _ _

theorem sameSetBy_refl {α : Type} [BEq α] [LawfulBEq α] (a : List α) : sameSetBy a a = true := by
  unfold sameSetBy
  simp

/-- I-equivalence (same skeleton, same v-structures with their collider) is reflexive and
    symmetric -/
theorem C18_iequiv_refl_symm (g h : DG) :
    iEquivalent g g = true ∧ iEquivalent g h = iEquivalent h g := by
  unfold iEquivalent
  refine ⟨by simp [sameSetBy_refl], ?_⟩
  rw [sameSetBy_comm (skeleton g), sameSetBy_comm (vStructures g)]

theorem sameSetBy_trans {α : Type} [BEq α] [LawfulBEq α] (a b c : List α)
    (h1 : sameSetBy a b = true) (h2 : sameSetBy b c = true) : sameSetBy a c = true := by
  unfold sameSetBy at *
  simp only [Bool.and_eq_true, List.all_eq_true, List.contains_iff_mem] at *
  exact ⟨fun x hx => h2.1 x (h1.1 x hx), fun x hx => h1.2 x (h2.2 x hx)⟩

/-- I-equivalence is transitive: with `C18_iequiv_refl_symm` it is an equivalence relation, so
    `is_iequivalent` must partition the DAGs over a node set into classes (the exhaustive stream
    compares the implementation's verdict, both ways round, with the model on every ordered pair of
    DAGs of up to 3 nodes and on random same-skeleton pairs of 4) -/
theorem C18_iequiv_trans (g h k : DG) (h1 : iEquivalent g h = true) (h2 : iEquivalent h k = true) :
    iEquivalent g k = true := by
  unfold iEquivalent at *
  simp only [Bool.and_eq_true] at *
  exact ⟨sameSetBy_trans _ _ _ h1.1 h2.1, sameSetBy_trans _ _ _ h1.2 h2.2⟩

example : IA.same ⟨[1], [2, 3], []⟩ ⟨[2, 3], [1], []⟩ = true := by decide

end PgmVerif
