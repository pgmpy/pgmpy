/-
  Props/C12.lean — constraint-based discovery: what the extension predicate and the enumerated Markov class
  guarantee, the d-separation facts behind the skeleton phase, the sink-removal loop of `PDAG.to_dag`, and
  soundness of the orientation rules.
-/
import PgmVerif.Props.C08
import PgmVerif.Proofs.ToDag
import PgmVerif.Proofs.Meek
namespace PgmVerif
open Relation

theorem isAcyclicG_iff (g : DG) (hw : g.WFG) : isAcyclicG g = true ↔ Acyclic g.edges := by
  unfold isAcyclicG Acyclic
  simp only [List.all_eq_true, Bool.not_eq_true', List.any_eq_false, g.mem_children, hasPathG_iff g hw,
    TransGen.head'_iff, not_exists, not_and]
  exact ⟨fun h x c hxc => h x (hw _ hxc).1 c hxc, fun h x _ => h x⟩

/-- the decidable acyclicity check of the model is sound: no child of a node reaches back -/
theorem isAcyclicG_sound (g : DG) (hw : g.WFG) (h : isAcyclicG g = true) : Acyclic g.edges :=
  (isAcyclicG_iff g hw).mp h

/-- **what an accepted extension is**: acyclic (as a Prop, not just the check), same skeleton,
    all directed edges kept, exactly the PDAG's v-structures -/
theorem C12_extension_sound (p : PD) (d : DG) (hw : d.WFG) (h : p.isExtension d = true) :
    Acyclic d.edges ∧ sameSetBy (skeleton d) p.skeleton = true ∧
    (∀ e ∈ p.directed, d.hasEdge e.1 e.2 = true) ∧ sameSetBy (vStructures d) p.vstructs = true := by
  unfold PD.isExtension at h
  simp only [Bool.and_eq_true, List.all_eq_true] at h
  obtain ⟨⟨⟨h1, h2⟩, h3⟩, h4⟩ := h
  exact ⟨isAcyclicG_sound d hw h1, h2, h3, h4⟩

/-- every member of the enumerated Markov class is acyclic and has the ground truth's
    v-structures -/
theorem C12_class_members (g h : DG) (hm : h ∈ markovClass g) :
    isAcyclicG h = true ∧ sameSetBy (vStructures h) (vStructures g) = true := by
  unfold markovClass at hm
  have := (List.mem_filter.mp hm).2
  simpa using this

/-- an edge directed in the spec CPDAG has that direction in every member of the class -/
theorem C12_cpdag_directed_sound (g : DG) (e : Var × Var) (he : e ∈ (cpdagSpec g).directed)
    (h : DG) (hm : h ∈ markovClass g) : h.hasEdge e.1 e.2 = true := by
  unfold cpdagSpec at he
  obtain ⟨e0, _, hf⟩ := List.mem_filterMap.mp he
  split at hf
  · next hall => cases hf; exact List.all_eq_true.mp hall h hm
  · split at hf
    · next hall => cases hf; exact List.all_eq_true.mp hall h hm
    · cases hf

/-- **a true edge is never removed**: adjacent nodes of the ground-truth DAG are d-connected given EVERY
    conditioning set that contains neither of them (the edge itself is an active trail).  Hence a skeleton
    search that deletes an edge only after its d-separation oracle reported independence — every variant
    (orig / stable / parallel), every visiting order, every max_cond_vars — returns a supergraph of the true
    skeleton. -/
theorem C12_adjacent_never_separated (g : DG) (hg : g.WFG) (hac : Acyclic g.edges) (u v : Var)
    (hadj : (u, v) ∈ g.edges ∨ (v, u) ∈ g.edges) (obs : List Var) (hu : u ∉ obs) (hv : v ∉ obs) :
    g.isDconnected u v obs = true := by
  have hun : u ∈ g.nodes := hadj.elim (fun h => (hg _ h).1) (fun h => (hg _ h).2)
  obtain ⟨d, hd⟩ := DSep.arrDir_exists g obs (g.ancestorsOf obs) [v, u] (List.cons_ne_nil _ _) hadj
  exact (g.isDconnected_iff u v obs).mpr
    ⟨hv, d, (C08_reach_iff_active_trail g hg hac obs u hun hu v d).mpr ⟨[v, u], rfl, rfl, hadj, hd⟩⟩

theorem desc_not_anc_parents (g : DG) (hg : g.WFG) (hac : Acyclic g.edges) (u n : Var)
    (hdesc : TransGen (Rel g.edges) u n) (hn : n ∈ g.ancestorsOf (g.parents u)) : False := by
  obtain ⟨p, hp, hnp⟩ := (g.mem_ancestorsOf hg _ n).mp hn
  exact hac u ((hdesc.trans_left hnp).tail ((g.mem_parents p u).mp hp))

/-- **the parents of a node separate it from every non-descendant**: conditioning on pa(u), the traversal from
    `u` only ever reaches `u`, its (observed) parents, and descendants of `u` entered along an arrow -/
theorem C12_parents_separate (g : DG) (hg : g.WFG) (hac : Acyclic g.edges) (u v : Var) (hu : u ∈ g.nodes)
    (hne : v ≠ u) (hnd : ¬ TransGen (Rel g.edges) u v) : g.isDconnected u v (g.parents u) = false := by
  have hinv : ∀ s, Gen (g.trailNext (g.parents u) (g.ancestorsOf (g.parents u))) [(u, true)] s →
      s = (u, true) ∨ (s.2 = true ∧ s.1 ∈ g.parents u) ∨ (s.2 = false ∧ TransGen (Rel g.edges) u s.1) := by
    intro s hs
    induction hs with
    | base hb => exact Or.inl (List.mem_singleton.mp hb)
    | @step s' y _ hxy ih =>
      obtain ⟨hcond, harr⟩ := (mem_trailNext g _ _ y.1 s'.1 y.2 s'.2 []).mp hxy
      rcases ih with rfl | ⟨h1, h2⟩ | ⟨h1, h2⟩
      · rcases harr with ⟨hd, he⟩ | ⟨hd, he⟩
        · exact Or.inr (Or.inl ⟨hd, (g.mem_parents _ _).mpr he⟩)
        · exact Or.inr (Or.inr ⟨hd, .single he⟩)
      · simp only [h1, Bool.true_eq_false, false_and, if_false] at hcond
        exact absurd h2 hcond
      · rcases harr with ⟨hd, he⟩ | ⟨hd, he⟩
        · rw [h1, hd, if_pos ⟨rfl, rfl⟩] at hcond
          exact (desc_not_anc_parents g hg hac u y.1 h2 hcond).elim
        · exact Or.inr (Or.inr ⟨hd, h2.tail he⟩)
  rw [← Bool.not_eq_true, g.isDconnected_iff]
  rintro ⟨hobs, d, hs⟩
  rcases hinv _ ((C08_reach_exact g hg _ u hu _).mp hs) with h | ⟨_, h2⟩ | ⟨_, h2⟩
  · exact hne (congrArg Prod.fst h)
  · exact hobs h2
  · exact hnd h2

/-- **skeleton characterisation**: two distinct nodes are either joined by an edge — then no conditioning set
    separates them (`C12_adjacent_never_separated`) — or the parent set of one of them separates them.  Both
    parent sets survive in the adjacency sets of the level-wise search (true edges are never removed), so the
    search finds a separating set for exactly the non-adjacent pairs. -/
theorem C12_nonadjacent_separable (g : DG) (hg : g.WFG) (hac : Acyclic g.edges) (u v : Var)
    (hu : u ∈ g.nodes) (hv : v ∈ g.nodes) (hne : u ≠ v) :
    g.isDconnected u v (g.parents u) = false ∨ g.isDconnected v u (g.parents v) = false := by
  by_cases h : TransGen (Rel g.edges) u v
  · right
    apply C12_parents_separate g hg hac v u hv hne
    intro h'
    exact hac u (TransGen.trans h h')
  · left
    exact C12_parents_separate g hg hac u v hu (Ne.symm hne) h

/-- **converting a partially directed graph to a DAG never creates a directed cycle**: the model of `PDAG.to_dag`
    (repeatedly remove a node without outgoing directed edge whose undirected neighbourhood is complete, orienting its
    undirected edges into it) returns, whenever it succeeds, an acyclic edge set — for EVERY partially directed graph -/
theorem C12_toDag_acyclic (p : PD) (res : List (Var × Var))
    (hdir : ∀ e ∈ p.directed, e.1 ∈ p.nodes ∧ e.2 ∈ p.nodes)
    (hund : ∀ e ∈ p.undirected.map normPair, e.1 ∈ p.nodes ∧ e.2 ∈ p.nodes ∧ e.1 ≠ e.2)
    (h : p.toDag = some res) : Acyclic res := by
  have h0 : ∀ a b, TransGen (Rel p.directed) a b → a ∈ p.nodes := fun a b hab =>
    have ⟨_, hac, _⟩ := TransGen.head'_iff.mp hab
    (hdir _ hac).1
  obtain ⟨_, _, hI⟩ := PD.go_invariant PD.goInv_step _ _ _ _ _ res
    ⟨hdir, hund, fun e he => Or.inl he, fun a b hab ha => absurd (h0 a b hab) ha,
      fun x hx hcyc => hx (h0 x x hcyc)⟩ h
  exact fun x => hI.acyc x List.not_mem_nil

/-- **`PDAG.to_dag` keeps every directed edge**: the result contains all directed edges of the PDAG, for EVERY
    partially directed graph on which the sink-removal loop succeeds (it only adds orientations of undirected edges) -/
theorem C12_toDag_keeps_directed (p : PD) (res : List (Var × Var)) (h : p.toDag = some res) :
    ∀ e ∈ p.directed, e ∈ res := by
  obtain ⟨_, _, hI⟩ := PD.go_invariant (I := fun _ _ _ acc => ∀ e ∈ p.directed, e ∈ acc)
    (fun _ _ _ _ _ _ _ hI e he => List.mem_append_left _ (hI e he)) _ _ _ _ _ res (fun _ he => he) h
  exact hI

/-- **`PDAG.to_dag` invents no adjacency**: every edge of the result is a directed edge of the PDAG or an orientation
    of one of its undirected edges (given as normalised pairs) - with `C12_toDag_keeps_directed`, the result has no
    adjacency the PDAG lacks and no directed edge reversed or dropped -/
theorem C12_toDag_only_orients (p : PD) (res : List (Var × Var)) (h : p.toDag = some res) :
    ∀ e ∈ res, e ∈ p.directed ∨ e ∈ p.undirected.map normPair ∨ (e.2, e.1) ∈ p.undirected.map normPair := by
  obtain ⟨_, _, hI⟩ := PD.go_invariant
    (I := fun _ _ und acc => (∀ e ∈ und, e ∈ p.undirected.map normPair) ∧
      ∀ e ∈ acc, e ∈ p.directed ∨ e ∈ p.undirected.map normPair ∨ (e.2, e.1) ∈ p.undirected.map normPair)
    (fun R dir und acc x _ _ ⟨hund, hacc⟩ => ⟨fun e he => hund e (PD.mem_without.mp he).1, fun e he => by
      rcases List.mem_append.mp he with h | h
      · exact hacc e h
      · obtain ⟨h2, hu | hu⟩ := PD.mem_into.mp h
        · exact .inr (.inr (h2 ▸ hund _ hu))
        · exact .inr (.inl (by rw [← h2] at hu; exact hund _ hu))⟩)
    _ _ _ _ _ res ⟨fun _ he => he, fun _ he => .inl he⟩ h
  exact hI.2

/-- **`PDAG.to_dag` loses no adjacency**: every undirected edge of the PDAG appears in the result in one of its two
    orientations, whenever the loop succeeds - with the two theorems above, the result is an orientation of exactly the
    PDAG's adjacencies that keeps its directed edges, and by `C12_toDag_acyclic` it is a DAG -/
theorem C12_toDag_orients_all (p : PD) (res : List (Var × Var))
    (hund : ∀ e ∈ p.undirected.map normPair, e.1 ∈ p.nodes) (h : p.toDag = some res) :
    ∀ e ∈ p.undirected.map normPair, e ∈ res ∨ (e.2, e.1) ∈ res := by
  -- each undirected edge is still pending, with its first end point not yet removed, or already oriented
  obtain ⟨_, _, hR, hI⟩ := PD.go_invariant
    (I := fun R _ und acc => (∀ e ∈ und, e.1 ∈ R) ∧
      ∀ e ∈ p.undirected.map normPair, e ∈ und ∨ e ∈ acc ∨ (e.2, e.1) ∈ acc)
    (fun R dir und acc x _ _ ⟨hR, hI⟩ => ⟨fun e he => by
        obtain ⟨he1, h1, _⟩ := PD.mem_without.mp he
        exact List.mem_filter.mpr ⟨hR e he1, by simpa using h1⟩,
      fun e he => by
        rcases hI e he with h | h | h
        · obtain ⟨e1, e2⟩ := e
          by_cases h1 : e1 = x
          · subst h1; exact .inr (.inr (List.mem_append_right _ (PD.mem_into.mpr ⟨rfl, .inl h⟩)))
          · by_cases h2 : e2 = x
            · subst h2; exact .inr (.inl (List.mem_append_right _ (PD.mem_into.mpr ⟨rfl, .inr h⟩)))
            · exact .inl (PD.mem_without.mpr ⟨h, h1, h2⟩)
        · exact .inr (.inl (List.mem_append_left _ h))
        · exact .inr (.inr (List.mem_append_left _ h))⟩)
    _ _ _ _ _ res ⟨hund, fun _ he => .inl he⟩ h
  exact fun e he => (hI e he).resolve_left fun h => List.not_mem_nil (hR e h)

/-- non-vacuity: the chain PDAG 0 - 1 - 2 is converted -/
example : (PD.mk [0, 1, 2] [] [(0, 1), (1, 2)]).toDag = some [(1, 0), (2, 1)] := rfl

example : (DG.mk [0, 1, 2] [(0, 2), (1, 2)]).WFG := by
  unfold DG.WFG
  decide

/-- **the orientation rules are sound** (Meek R1–R3, the rules `PC.skeleton_to_pdag` applies after the v-structures): in EVERY
    acyclic graph `E` — in particular in every member of the Markov equivalence class —
    * R1: a → b, b adjacent to c, a and c distinct and non-adjacent, a → b ← c not an unshielded collider of `E` ⇒ b → c;
    * R2: a → b → c with a adjacent to c ⇒ a → c;
    * R3: c → b ← d with c, d distinct and non-adjacent, a adjacent to b, c and d, c → a ← d not an unshielded collider ⇒ a → b.
    An edge that a rule orients therefore has that direction in all members: the rules never orient a reversible edge. -/
theorem C12_meek_rules_sound (E : List (Var × Var)) (hacyc : Acyclic E) :
    (∀ a b c, (a, b) ∈ E → AdjD E b c → a ≠ c → ¬ AdjD E a c → ¬ Collider E a b c → (b, c) ∈ E) ∧
    (∀ a b c, (a, b) ∈ E → (b, c) ∈ E → AdjD E a c → (a, c) ∈ E) ∧
    (∀ a b c d, (c, b) ∈ E → (d, b) ∈ E → AdjD E a b → AdjD E a c → AdjD E a d → c ≠ d → ¬ AdjD E c d →
      ¬ Collider E c a d → (a, b) ∈ E) :=
  ⟨meek_rule1 E, meek_rule2 E hacyc, meek_rule3 E hacyc⟩

/-- non-vacuity: the chain 0 → 1 → 2 meets the premises of R1 at (a, b, c) = (0, 1, 2) -/
example : (0, 1) ∈ [((0 : Var), (1 : Var)), (1, 2)] ∧ AdjD [((0 : Var), (1 : Var)), (1, 2)] 1 2 ∧
    ¬ AdjD [((0 : Var), (1 : Var)), (1, 2)] 0 2 ∧ ¬ Collider [((0 : Var), (1 : Var)), (1, 2)] 0 1 2 := by
  unfold Collider AdjD
  decide

end PgmVerif
