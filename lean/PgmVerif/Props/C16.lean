/-
  Props/C16.lean — representation independence and engine histories.
-/
import PgmVerif.Proofs.VE
namespace PgmVerif
open Factor

/-- the joint denotation depends only on the multiset of factors (insertion order of CPDs /
    factors is irrelevant) -/
theorem C16_perm_invariant (fs gs : List Factor) (p : fs.Perm gs) (a : Asg) :
    jointDen fs a = jointDen gs a :=
  jointDen_perm p a

/-- the order in which variables are summed out is irrelevant (any elimination order, any
    iteration order of a set) -/
theorem C16_sumOut_perm (K : Var → Nat) (l l' : List Var) (p : l.Perm l') (g : Asg → Rat) (a : Asg) :
    sumOut K l g a = sumOut K l' g a := by rw [sumOut_perm K p g]

/-- a factor whose variables are renamed by `π` -/
def Factor.rename (π : Var → Var) (f : Factor) : Factor := { f with scope := f.scope.map π }

/-- renaming variables commutes with denotation: the renamed table at `a` is the original table
    at `a ∘ π` -/
theorem C16_rename_den (π : Var → Var) (f : Factor) (a : Asg) :
    (f.rename π).den a = f.den (a ∘ π) := by
  unfold Factor.rename den
  simp [List.map_map]

/-- **renaming and renaming back is the identity**: a table carried to other variable names (strings, ints, tuples -
    any injective relabelling with left inverse ρ) and back is the very same table -/
theorem C16_rename_roundtrip (π ρ : Var → Var) (h : ∀ v, ρ (π v) = v) (f : Factor) :
    (f.rename π).rename ρ = f := by
  unfold Factor.rename
  simp [List.map_map, Function.comp_def, h]

theorem wf_rename (K : Var → Nat) (π : Var → Var) (hπ : Function.Injective π) (f : Factor)
    (hf : f.WF (K ∘ π)) : (f.rename π).WF K :=
  ⟨hf.1.map hπ, by unfold Factor.rename; rw [hf.2.1, List.map_map], hf.2.2⟩

theorem C16_rename_joint (π : Var → Var) (fs : List Factor) (a : Asg) :
    jointDen (fs.map (Factor.rename π)) a = jointDen fs (a ∘ π) :=
  jointDen_map _ fs fun f _ => C16_rename_den π f a

/-- **engine history**: after any number of virtual-evidence queries the engine is bound to the
    original network plus unobserved leaf CPDs `__X` (each normalised, each on a fresh
    variable that occurs in no other factor).  Summing those leaves out gives back the original
    joint, so every later answer equals a fresh engine's answer. -/
theorem C16_engine_history (K : Var → Nat) (fs : List Factor) (leaves : List (Var × Factor))
    (hnorm : ∀ p ∈ leaves, ∀ a, Bounded K a → sumVar K p.1 p.2.den a = 1)
    (hfresh : ∀ p ∈ leaves, ∀ f ∈ fs, p.1 ∉ f.scope)
    (hpair : leaves.Pairwise (fun p q => p.1 ∉ q.2.scope))
    (a : Asg) (ha : Bounded K a) :
    sumOut K (leaves.map (·.1)) (jointDen (leaves.map (·.2) ++ fs)) a = jointDen fs a :=
  leaves_sum_out K fs leaves hnorm hfresh hpair a ha

example : ([Factor.mk [0] [2] #[1, 2], Factor.mk [1] [2] #[3, 4]] : List Factor).Perm
    [Factor.mk [1] [2] #[3, 4], Factor.mk [0] [2] #[1, 2]] := List.Perm.swap _ _ _

end PgmVerif
