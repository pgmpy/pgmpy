/-
  Props/C15.lean — under ANY history of editing operations a Bayesian network stays acyclic, holds no node, edge
  or latent twice and at most one CPD per variable; a rejected operation leaves it unchanged.
-/
import PgmVerif.Proofs.Acyclic
import PgmVerif.Model.History
namespace PgmVerif
open Relation BNState

/-- structural invariant: edges stay inside the node set and there is no directed cycle -/
def BNState.Inv (s : BNState) : Prop := s.graph.WFG ∧ Acyclic s.edges

theorem mem_addIfAbsent (l : List Var) (v w : Var) : w ∈ addIfAbsent l v ↔ w ∈ l ∨ w = v := by
  unfold addIfAbsent
  split
  · next h => exact ⟨.inl, fun hw => hw.elim id fun e => e ▸ List.contains_iff_mem.mp h⟩
  · simp

theorem mem_addIfAbsent_of_mem {l : List Var} {w : Var} (v : Var) (h : w ∈ l) : w ∈ addIfAbsent l v :=
  (mem_addIfAbsent l v w).mpr (.inl h)

theorem mem_addIfAbsent_self (l : List Var) (v : Var) : v ∈ addIfAbsent l v :=
  (mem_addIfAbsent l v v).mpr (.inr rfl)

theorem BNState.hasPath_iff (s : BNState) (hw : s.graph.WFG) (v u : Var) :
    s.hasPath v u = true ↔ ReflTransGen (Rel s.edges) v u :=
  hasPathG_iff s.graph hw v u

/-- `has_path` finds every path between two nodes of the graph -/
theorem hasPath_complete (s : BNState) (hw : s.graph.WFG) (v u : Var) (hv : v ∈ s.nodes)
    (h : ReflTransGen (Rel s.edges) v u) : s.hasPath v u = true :=
  (s.hasPath_iff hw v u).mpr h

/-- case analysis of `step` for proofs about `(s.step op)`: one case for all rejections, one per accepted
    edit with its guard as a proposition and the new state written out (`add_cpds` has two: the child has a
    CPD already or not) -/
theorem BNState.step_cases (s : BNState) {P : BNOp → BNState × Out → Prop}
    (err : ∀ op, P op (s, .err))
    (addNode : ∀ v l, P (.addNode v l)
      ({ s with nodes := addIfAbsent s.nodes v, latents := if l then addIfAbsent s.latents v else s.latents }, .ok))
    (addEdge : ∀ u v, u ≠ v → ¬ (u ∈ s.nodes ∧ v ∈ s.nodes ∧ s.hasPath v u = true) → P (.addEdge u v)
      ({ s with nodes := addIfAbsent (addIfAbsent s.nodes u) v,
                edges := if s.edges.contains (u, v) then s.edges else s.edges ++ [(u, v)] }, .ok))
    (removeNode : ∀ v, v ∈ s.nodes → P (.removeNode v)
      ({ nodes := s.nodes.filter (· != v), edges := s.edges.filter (fun e => e.1 != v && e.2 != v),
         latents := s.latents.filter (· != v),
         cpds := (s.cpds.filter (fun f => childOf f != v)).map (fun f =>
           if f.scope.contains v && s.edges.contains (v, childOf f) then CPD.marginalize f [v] else f) }, .ok))
    (replaceCpd : ∀ f, (∀ x ∈ f.scope, x ∈ s.nodes) → (∃ g ∈ s.cpds, childOf g = childOf f) → P (.addCpd f)
      ({ s with cpds := s.cpds.map (fun g => if childOf g == childOf f then f else g) }, .ok))
    (newCpd : ∀ f, (∀ x ∈ f.scope, x ∈ s.nodes) → (∀ g ∈ s.cpds, childOf g ≠ childOf f) → P (.addCpd f)
      ({ s with cpds := s.cpds ++ [f] }, .ok))
    (removeCpd : ∀ v, P (.removeCpd v) ({ s with cpds := s.cpds.filter (fun f => childOf f != v) }, .ok))
    (doOp : ∀ vs, (∀ x ∈ vs, x ∈ s.nodes) → P (.doOp vs)
      ({ s with edges := s.edges.filter (fun e => !vs.contains e.2),
                cpds := s.cpds.map (fun f =>
                  if vs.contains (childOf f) then CPD.marginalize f (f.scope.drop 1) else f) }, .ok))
    (op : BNOp) : P op (s.step op) := by
  have hall : ∀ {l : List Var}, l.all s.nodes.contains = true → ∀ x ∈ l, x ∈ s.nodes := fun h x hx =>
    List.contains_iff_mem.mp (List.all_eq_true.mp h x hx)
  -- the 13 branches of `step` in the order of its definition; 1, 4, 6, 7, 8, 10, 12 are the accepted ones
  fun_cases step s op
  case case1 v l => exact addNode v l
  case case4 u v h1 h2 =>
    exact addEdge u v (fun e => h1 (beq_iff_eq.mpr e)) fun ⟨hu, hv, hp⟩ => h2 (by
      rw [List.contains_iff_mem.mpr hu, List.contains_iff_mem.mpr hv, hp]; rfl)
  case case6 v h _ =>
    exact removeNode v (List.contains_iff_mem.mp (by simpa only [Bool.not_eq_true', Bool.not_eq_false] using h))
  case case7 f h _ h' =>
    exact replaceCpd f (hall h) ((List.any_eq_true.mp h').imp fun g hg => ⟨hg.1, beq_iff_eq.mp hg.2⟩)
  case case8 f h _ h' =>
    exact newCpd f (hall h) fun g hg e => h' (List.any_eq_true.mpr ⟨g, hg, beq_iff_eq.mpr e⟩)
  case case10 v _ => exact removeCpd v
  case case12 vs h => exact doOp vs (hall h)
  all_goals exact err _

theorem BNState.step_doOp (s : BNState) (vs : List Var) (hv : vs.all s.nodes.contains = true) :
    s.step (.doOp vs) =
      ({ s with edges := s.edges.filter (fun e => !vs.contains e.2),
                cpds := s.cpds.map (fun f =>
                  if vs.contains (childOf f) then CPD.marginalize f (f.scope.drop 1) else f) }, .ok) := by
  simp only [step, hv, if_true]

/-- every editing operation preserves the invariant -/
theorem C15_step_inv (s : BNState) (op : BNOp) (h : s.Inv) : (s.step op).1.Inv := by
  obtain ⟨hw, hac⟩ := h
  induction op using s.step_cases with
  | addNode v l => exact ⟨hw.mono (fun _ => mem_addIfAbsent_of_mem v) (fun _ he => he), hac⟩
  | addEdge u v hne hguard =>
    have hno : ¬ ReflTransGen (Rel s.edges) v u := fun hp =>
      hguard ⟨(nodes_of_path hw hp hne.symm).2, (nodes_of_path hw hp hne.symm).1, (s.hasPath_iff hw v u).mpr hp⟩
    -- whether or not the edge was there already, the new edge list lies within `s.edges ++ [(u, v)]`
    have hsub : ∀ e ∈ (if s.edges.contains (u, v) then s.edges else s.edges ++ [(u, v)]),
        e ∈ s.edges ++ [(u, v)] := by
      intro e he; split at he
      · exact List.mem_append_left _ he
      · exact he
    refine ⟨fun e he => ?_, acyclic_sub hsub (acyclic_add_edge s.edges u v hac hno)⟩
    rcases List.mem_append.mp (hsub e he) with he | he
    · exact ⟨mem_addIfAbsent_of_mem v (mem_addIfAbsent_of_mem u (hw e he).1),
        mem_addIfAbsent_of_mem v (mem_addIfAbsent_of_mem u (hw e he).2)⟩
    · cases List.mem_singleton.mp he
      exact ⟨mem_addIfAbsent_of_mem v (mem_addIfAbsent_self _ u), mem_addIfAbsent_self _ v⟩
  | removeNode v _ =>
    refine ⟨fun e he => ?_, acyclic_sub (fun e he => (List.mem_filter.mp he).1) hac⟩
    obtain ⟨he1, he2⟩ := List.mem_filter.mp he
    obtain ⟨h1, h2⟩ := Bool.and_eq_true_iff.mp he2
    exact ⟨List.mem_filter.mpr ⟨(hw e he1).1, h1⟩, List.mem_filter.mpr ⟨(hw e he1).2, h2⟩⟩
  | doOp vs _ =>
    exact ⟨hw.mono (fun _ h => h) (fun e he => (List.mem_filter.mp he).1),
      acyclic_sub (fun e he => (List.mem_filter.mp he).1) hac⟩
  | _ => exact ⟨hw, hac⟩

theorem BNState.run_invariant {P : BNState → Prop} {ops : List BNOp} {s : BNState} (h : P s)
    (hstep : ∀ t, P t → ∀ op ∈ ops, P (t.step op).1) : P (s.run ops) :=
  List.foldlRecOn ops _ h hstep

theorem BNState.init_inv : BNState.init.Inv := ⟨fun _ he => (nomatch he), acyclic_nil⟩

theorem BNState.run_inv (ops : List BNOp) : (BNState.init.run ops).Inv :=
  run_invariant init_inv fun t ht op _ => C15_step_inv t op ht

/-- **no directed cycle after any history** of add_node / add_edge / remove_node / add_cpds /
    remove_cpds / do, with valid or invalid arguments, starting from the empty model -/
theorem C15_bn_acyclic (ops : List BNOp) : Acyclic (BNState.init.run ops).edges :=
  (run_inv ops).2

/-- a rejected operation leaves the model unchanged -/
theorem C15_reject_unchanged (s : BNState) (op : BNOp) (h : (s.step op).2 = Out.err) :
    (s.step op).1 = s := by
  revert h
  induction op using s.step_cases with
  | err => exact fun _ => rfl
  | _ => exact fun h => nomatch h

/-- `do(vs)` removes exactly the edges into the intervened nodes and keeps the node set -/
theorem C15_do_edges (s : BNState) (vs : List Var) (hv : vs.all s.nodes.contains = true) (e : Var × Var) :
    (e ∈ (s.step (.doOp vs)).1.edges ↔ e ∈ s.edges ∧ e.2 ∉ vs) ∧ (s.step (.doOp vs)).1.nodes = s.nodes := by
  rw [step_doOp s vs hv]
  exact ⟨by simp [List.mem_filter], rfl⟩

example : (BNState.init.run [.addEdge 0 1, .addEdge 1 2, .addEdge 2 0]).edges = [(0, 1), (1, 2)] := rfl

/-- bookkeeping invariant: the node list, the edge list and the latent list hold no entry twice
    (a `DiGraph` has no parallel edges) and every latent variable is a node of the graph -/
def BNState.Book (s : BNState) : Prop :=
  s.nodes.Nodup ∧ s.edges.Nodup ∧ s.latents.Nodup ∧ ∀ v ∈ s.latents, v ∈ s.nodes

theorem nodup_append_singleton {α : Type} {l : List α} {a : α} (h : l.Nodup) (ha : a ∉ l) : (l ++ [a]).Nodup :=
  List.nodup_append.mpr ⟨h, List.pairwise_singleton _ a, fun _ hx _ hy e => ha (List.mem_singleton.mp hy ▸ e ▸ hx)⟩

theorem nodup_addIfAbsent (l : List Var) (v : Var) (h : l.Nodup) : (addIfAbsent l v).Nodup := by
  unfold addIfAbsent
  split
  · exact h
  · next hc => exact nodup_append_singleton h (by simpa using hc)

theorem C15_step_book (s : BNState) (op : BNOp) (h : s.Book) : (s.step op).1.Book := by
  obtain ⟨hn, he, hl, hsub⟩ := h
  induction op using s.step_cases with
  | addNode v l =>
    refine ⟨nodup_addIfAbsent _ _ hn, he, ?_, fun w hw => ?_⟩
    · split
      · exact nodup_addIfAbsent _ _ hl
      · exact hl
    · split at hw
      · exact (mem_addIfAbsent _ _ _).mpr (((mem_addIfAbsent _ _ _).mp hw).imp_left (hsub w))
      · exact mem_addIfAbsent_of_mem v (hsub w hw)
  | addEdge u v _ _ =>
    refine ⟨nodup_addIfAbsent _ _ (nodup_addIfAbsent _ _ hn), ?_, hl,
      fun w hw => mem_addIfAbsent_of_mem v (mem_addIfAbsent_of_mem u (hsub w hw))⟩
    split
    · exact he
    · next hc => exact nodup_append_singleton he (by simpa using hc)
  | removeNode v _ =>
    exact ⟨hn.filter _, he.filter _, hl.filter _, fun w hw =>
      List.mem_filter.mpr ⟨hsub w (List.mem_filter.mp hw).1, (List.mem_filter.mp hw).2⟩⟩
  | doOp vs _ => exact ⟨hn, he.filter _, hl, hsub⟩
  | _ => exact ⟨hn, he, hl, hsub⟩

/-- **after any history** no node, edge or latent is held twice and every latent variable is still a
    node: `remove_node` takes the variable out of `latents` too, and nothing else can separate them -/
theorem C15_bookkeeping (ops : List BNOp) : (BNState.init.run ops).Book :=
  run_invariant ⟨.nil, .nil, .nil, fun _ hv => (nomatch hv)⟩ fun t ht op _ => C15_step_book t op ht

example : (BNState.init.run [.addNode 3 true, .addEdge 3 1, .removeNode 3]).latents = [] := rfl

/-- a table with a non-empty duplicate-free scope and one cardinality per scope variable
    (what `TabularCPD.__init__` guarantees) -/
def Shaped (f : Factor) : Prop := f.scope ≠ [] ∧ f.scope.length = f.card.length ∧ f.scope.Nodup

def BNOp.Shaped : BNOp → Prop
  | .addCpd f => PgmVerif.Shaped f
  | _ => True

theorem Shaped.scope_eq {f : Factor} (h : Shaped f) :
    ∃ rest, f.scope = childOf f :: rest ∧ childOf f ∉ rest := by
  have hnd := h.2.2
  unfold childOf
  cases hs : f.scope with
  | nil => exact absurd hs h.1
  | cons c rest => rw [hs] at hnd; exact ⟨rest, rfl, (List.nodup_cons.mp hnd).1⟩

theorem Shaped.childOf_mem {f : Factor} (h : Shaped f) : childOf f ∈ f.scope := by
  obtain ⟨rest, hs, _⟩ := h.scope_eq
  rw [hs]; exact List.mem_cons_self

theorem Shaped.childOf_notMem_tail {f : Factor} (h : Shaped f) : childOf f ∉ f.scope.drop 1 := by
  obtain ⟨rest, hs, hc⟩ := h.scope_eq
  rw [hs]; exact hc

theorem CPD.scope_marginalize (f : Factor) (ps : List Var) (hlen : f.scope.length = f.card.length) :
    (CPD.marginalize f ps).scope = f.scope.filter (fun v => !ps.contains v) := by
  have hs : (CPD.marginalize f ps).scope = (f.outside ps).map (·.1) := rfl
  have h := List.filter_map (f := Prod.fst) (p := fun v => !ps.contains v) (l := f.scope.zip f.card)
  rw [List.map_fst_zip (Nat.le_of_eq hlen)] at h
  exact hs.trans h.symm

/-- `TabularCPD.marginalize` over variables other than the child keeps the child in front -/
theorem shaped_marg (f : Factor) (ps : List Var) (h : Shaped f) (hc : childOf f ∉ ps) :
    Shaped (CPD.marginalize f ps) ∧ childOf (CPD.marginalize f ps) = childOf f := by
  obtain ⟨rest, hsc, _⟩ := h.scope_eq
  have hs := CPD.scope_marginalize f ps h.2.1
  have hk : (CPD.marginalize f ps).scope.length = (CPD.marginalize f ps).card.length := by
    have hso : (CPD.marginalize f ps).scope = (f.outside ps).map (·.1) := rfl
    have hco : (CPD.marginalize f ps).card = (f.outside ps).map (·.2) := rfl
    rw [hso, hco, List.length_map, List.length_map]
  have hkeep : f.scope.filter (fun v => !ps.contains v) = childOf f :: rest.filter (fun v => !ps.contains v) := by
    rw [hsc, List.filter_cons_of_pos (by simpa using hc)]
  exact ⟨⟨by rw [hs, hkeep]; exact List.cons_ne_nil _ _, hk, hs ▸ h.2.2.filter _⟩,
    by unfold childOf; rw [hs, hkeep]; rfl⟩

/-- CPD invariant: at most one CPD per variable, each CPD-shaped and for a node of the graph (its child) -/
def BNState.CpdInv (s : BNState) : Prop :=
  (s.cpds.map childOf).Nodup ∧ ∀ f ∈ s.cpds, Shaped f ∧ childOf f ∈ s.nodes

/-- a step that keeps a sublist of the CPDs, maps it by a shape- and child-preserving `g`, and whose node list still holds
    the children keeps the CPD invariant -/
theorem BNState.CpdInv.map {s : BNState} (h : s.CpdInv) {l : List Factor} (hl : l.Sublist s.cpds)
    (g : Factor → Factor) (nodes : List Var)
    (hg : ∀ f ∈ l, Shaped (g f) ∧ childOf (g f) = childOf f ∧ childOf f ∈ nodes) :
    CpdInv { s with nodes := nodes, cpds := l.map g } := by
  refine ⟨?_, fun f' hf' => ?_⟩
  · show ((l.map g).map childOf).Nodup
    rw [List.map_map, List.map_congr_left (f := childOf ∘ g) (g := childOf) fun f hf => (hg f hf).2.1]
    exact (hl.map childOf).nodup h.1
  · obtain ⟨f, hf, rfl⟩ := List.mem_map.mp hf'
    exact ⟨(hg f hf).1, (hg f hf).2.1 ▸ (hg f hf).2.2⟩

theorem C15_step_cpds (s : BNState) (op : BNOp) (hop : op.Shaped) (h : s.CpdInv) :
    (s.step op).1.CpdInv := by
  have hall := h.2
  induction op using s.step_cases with
  | addNode v l => exact ⟨h.1, fun f hf => ⟨(hall f hf).1, mem_addIfAbsent_of_mem v (hall f hf).2⟩⟩
  | addEdge u v _ _ =>
    exact ⟨h.1, fun f hf => ⟨(hall f hf).1, mem_addIfAbsent_of_mem v (mem_addIfAbsent_of_mem u (hall f hf).2)⟩⟩
  | removeNode v _ =>
    refine h.map List.filter_sublist _ _ fun f hf => ?_
    obtain ⟨hf1, hf2⟩ := List.mem_filter.mp hf
    have hn : childOf f ∈ s.nodes.filter (· != v) := List.mem_filter.mpr ⟨(hall f hf1).2, hf2⟩
    split
    · have hm := shaped_marg f [v] (hall f hf1).1 (by simpa using hf2)
      exact ⟨hm.1, hm.2, hn⟩
    · exact ⟨(hall f hf1).1, rfl, hn⟩
  | replaceCpd f _ _ =>
    refine h.map (List.Sublist.refl _) _ _ fun g hg => ?_
    split
    · next he => exact ⟨hop, (by simpa using he : childOf g = childOf f).symm, (hall g hg).2⟩
    · exact ⟨(hall g hg).1, rfl, (hall g hg).2⟩
  | newCpd f hin hnew =>
    have hsf : Shaped f := hop
    refine ⟨?_, fun g hg => ?_⟩
    · show ((s.cpds ++ [f]).map childOf).Nodup
      rw [List.map_append]
      refine nodup_append_singleton h.1 fun ha => ?_
      obtain ⟨g, hg, hge⟩ := List.mem_map.mp ha
      exact hnew g hg hge
    · rcases List.mem_append.mp hg with hg | hg
      · exact hall g hg
      · cases List.mem_singleton.mp hg; exact ⟨hsf, hin _ hsf.childOf_mem⟩
  | removeCpd v =>
    exact ⟨((List.filter_sublist (l := s.cpds)).map childOf).nodup h.1, fun f hf => hall f (List.mem_filter.mp hf).1⟩
  | doOp vs _ =>
    refine h.map (List.Sublist.refl _) _ _ fun f hf => ?_
    split
    · have hm := shaped_marg f _ (hall f hf).1 (hall f hf).1.childOf_notMem_tail
      exact ⟨hm.1, hm.2, (hall f hf).2⟩
    · exact ⟨(hall f hf).1, rfl, (hall f hf).2⟩
  | err => exact h

/-- **after any history** whose `add_cpds` arguments are CPD-shaped there is at most one CPD per variable
    and every stored CPD belongs to a node that is still in the graph, child variable in front:
    `add_cpds` replaces, `remove_node` deletes the node's CPD and keeps the children's CPDs theirs,
    `do` keeps the intervened variable's CPD its own -/
theorem C15_cpd_bookkeeping (ops : List BNOp) (hops : ∀ op ∈ ops, op.Shaped) :
    (BNState.init.run ops).CpdInv :=
  run_invariant ⟨.nil, fun _ hf => (nomatch hf)⟩ fun t ht op hop => C15_step_cpds t op (hops op hop) ht

-- non-vacuity: a CPD-shaped table, and a history in which a CPD is replaced and its node removed
example : Shaped { scope := [1, 0], card := [2, 2], vals := #[1, 0, 0, 1] } :=
  ⟨List.cons_ne_nil _ _, rfl, by decide⟩
example : ((BNState.init.run [.addEdge 0 1,
    .addCpd { scope := [1, 0], card := [2, 2], vals := #[1, 0, 0, 1] },
    .addCpd { scope := [1, 0], card := [2, 2], vals := #[0, 1, 1, 0] },
    .addCpd { scope := [0], card := [2], vals := #[1, 0] },
    .removeNode 0]).cpds.map childOf) = [1] := rfl

/-- `remove_node(v)`: the CPD of a child of `v`, marginalised over `v`, no longer mentions `v` -/
theorem C15_remove_forgets (f : Factor) (v : Var) : v ∉ (CPD.marginalize f [v]).scope := by
  have hs : (CPD.marginalize f [v]).scope = (f.outside [v]).map (·.1) := rfl
  rw [hs]
  intro hmem
  obtain ⟨p, hp, hpv⟩ := List.mem_map.mp hmem
  have := (List.mem_filter.mp hp).2
  simp [hpv] at this

/-- `do(X)`: the CPD of an intervened variable becomes a table over that variable alone -/
theorem C15_do_parentless (f : Factor) (h : Shaped f) :
    (CPD.marginalize f (f.scope.drop 1)).scope = [childOf f] := by
  obtain ⟨rest, hsc, hc⟩ := h.scope_eq
  rw [CPD.scope_marginalize f _ h.2.1, hsc, List.drop_one, List.tail_cons, List.filter_cons_of_pos (by simpa using hc),
    List.filter_eq_nil_iff.mpr (fun a ha => by simpa using ha)]

/-- **every reachable state is structurally consistent** - the three invariants together, for ANY history of the six
    editing operations from the empty model (valid or invalid arguments, `add_cpds` arguments CPD-shaped): edges join
    nodes of the graph and form no directed cycle; no node, edge or latent is held twice and latents are nodes; there
    is at most one CPD per variable, each for a node still in the graph with its child variable in front -/
theorem C15_reachable_consistent (ops : List BNOp) (hops : ∀ op ∈ ops, op.Shaped) :
    (BNState.init.run ops).Inv ∧ (BNState.init.run ops).Book ∧ (BNState.init.run ops).CpdInv :=
  ⟨run_inv ops, C15_bookkeeping ops, C15_cpd_bookkeeping ops hops⟩

end PgmVerif
