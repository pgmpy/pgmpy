/-
  Props/C06.lean — parameter learning returns the closed-form estimates.
-/
import PgmVerif.Proofs.CPD
import PgmVerif.Proofs.VE
import PgmVerif.Proofs.Counts
namespace PgmVerif
open Factor

/-- the count table denotes the weighted number of rows that agree with the assignment on
    child and parents -/
theorem C06_counts_den (data : Data) (K : Var → Nat) (child : Var) (parents : List Var)
    (hn : (child :: parents).Nodup) (a : Asg) (ha : Bounded K a) :
    (countsTable data K child parents).den a = countAt data (child :: parents) a ∧
    (countsTable data K child parents).WF K :=
  ⟨den_tabulateK K _ _ a ha (countAt_congr data _), wf_tabulate K _ _ hn⟩

/-- counts (hence every estimate below) do not depend on the order of the rows -/
theorem C06_counts_perm (data data' : Data) (p : data.Perm data') (vs : List Var) (a : Asg) :
    countAt data vs a = countAt data' vs a :=
  countAt_perm p vs a

/-- … nor on the order in which the parents are listed -/
theorem C06_counts_parent_order (data : Data) (c : Var) (ps ps' : List Var) (p : ps.Perm ps') (a : Asg) :
    countAt data (c :: ps) a = countAt data (c :: ps') a := by
  have e : ∀ r, rowMatches (c :: ps) a r = rowMatches (c :: ps') a r := fun r => by
    unfold rowMatches
    rw [List.all_cons, List.all_cons, p.all_eq]
  unfold countAt
  simp only [e]

/-- the column total of a CPD-shaped table does not depend on the child's state -/
theorem colsum_upd (K : Var → Nat) (f : Factor) (hf : f.WF K) (c : Var) (ps : List Var)
    (hs : f.scope = c :: ps) (a : Asg) (x : Nat) :
    (columnSums f).den (upd a c x) = (columnSums f).den a :=
  den_upd_notin _ c ((columnSums_isTable K f hf c ps hs).scope ▸ (List.nodup_cons.mp (hs ▸ hf.1)).1) a x

/-- every column of a column-normalised table with non-zero total sums to one -/
theorem C06_fitted_valid (K : Var → Nat) (f : Factor) (hf : f.WF K) (c : Var) (ps : List Var)
    (hs : f.scope = c :: ps) (a : Asg) (ha : Bounded K a)
    (hne : sumVar K c f.den a ≠ 0) :
    sumVar K c (CPD.colNormalize f).den a = 1 := by
  rw [← sumVar_div_self K f.den c a hne]
  apply sumVar_congr_at
  intro x hx
  rw [den_colNormalize K f hf c ps hs _ (upd_bounded ha c x hx), sumVar_upd_self, if_neg hne]

/-- ML estimate: count / column total, uniform for a parent configuration that never occurs -/
theorem C06_mle_closed_form (K : Var → Nat) (cnt : Factor) (hf : cnt.WF K) (c : Var) (ps : List Var)
    (hs : cnt.scope = c :: ps) (a : Asg) (ha : Bounded K a) :
    (mleFrom cnt).den a =
      (if sumVar K c cnt.den a = 0 then 1 / (K c : Rat) else cnt.den a / sumVar K c cnt.den a) := by
  -- the table whose empty columns are filled with ones
  have hfill : ∀ b, Bounded K b →
      (tabulate cnt.scope cnt.card (fun b => if (columnSums cnt).den b = 0 then 1 else cnt.den b)).den b
        = if sumVar K c cnt.den b = 0 then 1 else cnt.den b := by
    intro b hb
    have hd : DependsOn (fun b => if (columnSums cnt).den b = 0 then 1 else cnt.den b) cnt.scope :=
      .map₂ (fun x s => if s = 0 then 1 else x) (den_dependsOn cnt)
        (.den _ (scope_columnSums_sub K cnt hf c ps hs))
    rw [den_tabulate_like K cnt hf _ hd b hb, columnSums_den K cnt hf c ps hs b hb]
    rfl  -- `sumR` of the column is `sumVar` by definition
  -- its column sums: the number of child states in a filled column, unchanged otherwise
  have hsum : sumVar K c (tabulate cnt.scope cnt.card
        (fun b => if (columnSums cnt).den b = 0 then 1 else cnt.den b)).den a
      = if sumVar K c cnt.den a = 0 then (K c : Rat) else sumVar K c cnt.den a := by
    rw [sumVar_congr_at (h := fun b => if sumVar K c cnt.den a = 0 then 1 else cnt.den b)
      (fun x hx => by rw [hfill _ (upd_bounded ha c x hx), sumVar_upd_self])]
    split
    · rw [sumVar_eq, Finset.sum_const, Finset.card_range, nsmul_eq_mul, mul_one]
    · rfl
  have hKc : (K c : Rat) ≠ 0 := Nat.cast_ne_zero.mpr (Nat.ne_of_gt (Nat.zero_lt_of_lt (ha c)))
  refine (den_colNormalize K _ (wf_tabulate_like K cnt hf _) c ps hs a ha).trans ?_
  rw [hsum, hfill a ha]
  by_cases h0 : sumVar K c cnt.den a = 0
  · simp only [if_pos h0, if_neg hKc]
  · simp only [if_neg h0]

/-- Bayesian estimate: (count + pseudo-count) / (column total of both) -/
theorem C06_bayes_closed_form (K : Var → Nat) (cnt pseudo : Factor) (hc : cnt.WF K) (hp : pseudo.WF K)
    (c : Var) (ps : List Var) (hs : cnt.scope = c :: ps) (hsp : ∀ v ∈ pseudo.scope, v ∈ cnt.scope)
    (a : Asg) (ha : Bounded K a)
    (hne : sumVar K c (fun b => cnt.den b + pseudo.den b) a ≠ 0) :
    (bayesFrom cnt pseudo).den a
      = (cnt.den a + pseudo.den a) / sumVar K c (fun b => cnt.den b + pseudo.den b) a := by
  have hsc : (cnt.add pseudo).scope = c :: ps :=
    (scope_combine K _ cnt pseudo hc hp).trans ((unionScope_of_subset cnt pseudo hsp).trans hs)
  have hsum : sumVar K c (cnt.add pseudo).den a = sumVar K c (fun b => cnt.den b + pseudo.den b) a :=
    sumVar_congr_at (fun x hx => den_add K cnt pseudo hc hp _ (upd_bounded ha c x hx))
  rw [bayesFrom, den_colNormalize K _ (wf_add K cnt pseudo hc hp) c ps hsc a ha, hsum, if_neg hne,
    den_add K cnt pseudo hc hp a ha]

example : (countsTable [([0, 1], 1), ([1, 1], 1), ([0, 1], 1)] (fun _ => 2) 0 [1]).WF (fun _ => 2) :=
  (C06_counts_den _ _ 0 [1] (by decide) (fun _ => 0) (fun _ => by show 0 < 2; omega)).2

/-- **a prior of zero pseudo-counts is no prior**: on every parent configuration that occurs in the data the
    Bayesian estimate with all pseudo-counts 0 is the maximum-likelihood estimate -/
theorem C06_bayes_zero_prior (K : Var → Nat) (cnt pseudo : Factor) (hc : cnt.WF K) (hp : pseudo.WF K)
    (c : Var) (ps : List Var) (hs : cnt.scope = c :: ps) (hsp : ∀ v ∈ pseudo.scope, v ∈ cnt.scope)
    (a : Asg) (ha : Bounded K a) (hz : ∀ b, Bounded K b → pseudo.den b = 0)
    (hne : sumVar K c cnt.den a ≠ 0) :
    (bayesFrom cnt pseudo).den a = (mleFrom cnt).den a := by
  have hsum : sumVar K c (fun b => cnt.den b + pseudo.den b) a = sumVar K c cnt.den a :=
    sumVar_congr_at (fun x hx => by rw [hz _ (upd_bounded ha c x hx), add_zero])
  rw [C06_bayes_closed_form K cnt pseudo hc hp c ps hs hsp a ha (by rw [hsum]; exact hne),
      C06_mle_closed_form K cnt hc c ps hs a ha, hsum, if_neg hne, hz a ha, add_zero]

/-- **row weights matter only through their ratios**: multiplying every weight by the same non-zero number (weights given on the
    scale of 1e-12, or in thousands) leaves the maximum-likelihood CPD unchanged -/
theorem C06_mle_weight_scale (data : Data) (K : Var → Nat) (child : Var) (parents : List Var)
    (hn : (child :: parents).Nodup) (s : Rat) (hs : s ≠ 0) (a : Asg) (ha : Bounded K a) :
    (mle (scaleWeights s data) K child parents).den a = (mle data K child parents).den a := by
  have h1 := C06_counts_den data K child parents hn
  have h2 := C06_counts_den (scaleWeights s data) K child parents hn
  have hden : ∀ b, Bounded K b →
      (countsTable (scaleWeights s data) K child parents).den b = s * (countsTable data K child parents).den b :=
    fun b hb => by rw [(h2 b hb).1, (h1 b hb).1, countAt_scale]
  have hsum : sumVar K child (countsTable (scaleWeights s data) K child parents).den a
      = s * sumVar K child (countsTable data K child parents).den a := by
    rw [sumVar_congr_at (h := fun b => s * (countsTable data K child parents).den b)
      (fun x hx => hden _ (upd_bounded ha child x hx)), sumVar_const_mul]
  rw [mle, mle, C06_mle_closed_form K _ (h2 a ha).2 child parents rfl a ha,
      C06_mle_closed_form K _ (h1 a ha).2 child parents rfl a ha, hsum, hden a ha]
  by_cases h0 : sumVar K child (countsTable data K child parents).den a = 0
  · rw [h0, mul_zero, if_pos rfl, if_pos rfl]
  · rw [if_neg h0, if_neg (mul_ne_zero hs h0), mul_div_mul_left _ _ hs]

end PgmVerif
