/-
  Props/C10.lean — structure scores: the LRU cache is transparent and bounded, counts do not depend on the row
  order, configurations that never occur contribute closed-form terms, renumbering states changes nothing, and
  BDeu / BIC / AIC agree across the reversal of a covered edge.
-/
import PgmVerif.Proofs.Counts
import PgmVerif.Model.Generated
import PgmVerif.Proofs.ScoreEq
import Mathlib.Algebra.BigOperators.Group.Finset.Sigma
import Mathlib.Tactic.Ring
namespace PgmVerif

namespace LRU
variable {κ ν : Type} [DecidableEq κ]

def Inv (f : κ → ν) (m : Nat) (c : LRU κ ν) : Prop :=
  c.maxSize = m ∧ (∀ e ∈ c.entries, e.2 = f e.1) ∧ c.entries.length ≤ m

omit [DecidableEq κ] in
theorem inv_empty (f : κ → ν) (m : Nat) : Inv f m { maxSize := m, entries := [] } :=
  ⟨rfl, fun _ h => (nomatch h), Nat.zero_le _⟩

theorem mem_of_lookup {c : LRU κ ν} {k : κ} {v : ν} (h : c.lookup k = some v) : (k, v) ∈ c.entries := by
  obtain ⟨e, he, rfl⟩ := Option.map_eq_some_iff.mp h
  have hk : e.1 = k := by simpa using List.find?_some he
  exact hk ▸ List.mem_of_find?_eq_some he

theorem call_spec (f : κ → ν) {m : Nat} (hm : 1 ≤ m) {c : LRU κ ν} (h : Inv f m c) (k : κ) :
    (call f c k).2 = f k ∧ Inv f m (call f c k).1 := by
  obtain ⟨hs, hv, hl⟩ := h
  unfold call
  split
  · next v hlk =>
    -- a hit: the entry found is dropped by the filter before it is appended again
    have hmem := mem_of_lookup hlk
    have hlt : (c.entries.filter (fun e => e.1 ≠ k)).length < c.entries.length :=
      List.length_filter_lt_length_iff_exists.mpr ⟨_, hmem, by simp⟩
    refine ⟨hv _ hmem, hs, List.forall_mem_append.mpr ⟨fun e he => hv e (List.mem_filter.mp he).1, ?_⟩, ?_⟩
    · exact List.forall_mem_singleton.mpr (hv _ hmem)
    · rw [List.length_append, List.length_singleton]
      exact Nat.le_trans hlt hl
  · refine ⟨rfl, hs, List.forall_mem_append.mpr ⟨fun e he => hv e ?_, List.forall_mem_singleton.mpr rfl⟩, ?_⟩
    · split at he
      exacts [List.mem_of_mem_drop he, he]
    · -- a miss: a full cache gives up its oldest entry first
      rw [List.length_append, List.length_singleton]
      split
      · next hge => rw [List.length_drop, Nat.sub_add_cancel (Nat.le_trans hm (hs ▸ hge))]; exact hl
      · next hlt => exact hs ▸ Nat.lt_of_not_le hlt

theorem run_spec (f : κ → ν) {m : Nat} (hm : 1 ≤ m) (keys : List κ) {c : LRU κ ν} (h : Inv f m c) :
    (run f c keys).2 = keys.map f ∧ Inv f m (run f c keys).1 := by
  induction keys generalizing c with
  | nil => exact ⟨rfl, h⟩
  | cons k ks ih =>
    obtain ⟨h1, h2⟩ := call_spec f hm h k
    obtain ⟨i1, i2⟩ := ih h2
    exact ⟨by simp only [run, List.map_cons, i1, h1], i2⟩

end LRU

/-- **cache transparency**: for every call history and every `max_size ≥ 1`, the cached scorer
    returns exactly what the uncached scorer returns -/
theorem C10_cache_transparent {κ ν : Type} [DecidableEq κ] (f : κ → ν) (m : Nat) (hm : 1 ≤ m)
    (keys : List κ) :
    (LRU.run f { maxSize := m, entries := [] } keys).2 = keys.map f :=
  (LRU.run_spec f hm keys (LRU.inv_empty f m)).1

/-- … and never holds more than `max_size` entries -/
theorem C10_cache_bounded {κ ν : Type} [DecidableEq κ] (f : κ → ν) (m : Nat) (hm : 1 ≤ m)
    (keys : List κ) :
    (LRU.run f { maxSize := m, entries := [] } keys).1.entries.length ≤ m :=
  (LRU.run_spec f hm keys (LRU.inv_empty f m)).2.2.2

/-- the table of counts every score is computed from is invariant under row permutation -/
theorem C10_counts_row_perm (data data' : Data) (p : data.Perm data') (K : Var → Nat) (child : Var)
    (parents : List Var) : localCounts data K child parents = localCounts data' K child parents := by
  simp only [localCounts, countAt_perm p]

theorem fact_pos (n : Nat) : 0 < fact n := by
  induction n with
  | zero => decide
  | succ n ih => simp only [fact]; exact Nat.mul_pos (Nat.succ_pos n) ih

theorem colTotal_replicate (r : Nat) : colTotal (List.replicate r 0) = 0 := by
  unfold colTotal; simp

/-- K2: a parent configuration that never occurs contributes the factor 1
    ((r−1)!/(r−1)! · Π 0!), i.e. the term 0 to the log score -/
theorem C10_unobserved_config_k2 (r : Nat) : k2Col r (List.replicate r 0) = 1 := by
  unfold k2Col
  rw [colTotal_replicate]
  simp [rising, fact]

/-- BDeu / BDs: likewise Γ(α)/Γ(α) · Π Γ(β)/Γ(β) = 1 -/
theorem C10_unobserved_config_bd (alpha beta : Rat) (r : Nat) : bdCol alpha beta (List.replicate r 0) = 1 := by
  unfold bdCol
  rw [colTotal_replicate]
  simp [rising]

/-- the rising factorial satisfies the Gamma recurrence Γ(b+n+1) = (b+n) Γ(b+n): it is the
    rational Γ(b+n)/Γ(b) in which the published scores are expressed -/
theorem C10_rising_gamma (b : Rat) (n : Nat) :
    rising b 0 = 1 ∧ rising b (n + 1) = rising b n * (b + n) ∧ rising 1 n = (fact n : Rat) := by
  refine ⟨rfl, rfl, ?_⟩
  induction n with
  | zero => simp [rising, fact]
  | succ n ih =>
    simp only [rising, fact, ih]
    push_cast
    ring

/-- **scores do not depend on how the states or the parent configurations are numbered**: the K2 and BD column terms
    are invariant under permuting the counts within a column (relabelling the child's states), and the K2 score under
    permuting the columns (relabelling / reordering parent configurations) -/
theorem C10_state_order_irrelevant (r : Nat) (alpha beta : Rat) (col col' : List Nat) (p : col.Perm col')
    (cols cols' : List (List Nat)) (q : cols.Perm cols') :
    k2Col r col = k2Col r col' ∧ bdCol alpha beta col = bdCol alpha beta col' ∧ k2Exp r cols = k2Exp r cols' := by
  refine ⟨?_, ?_, ?_⟩
  · unfold k2Col colTotal
    rw [(p.map _).prod_eq, p.sum_eq]
  · unfold bdCol colTotal
    rw [(p.map _).prod_eq, p.sum_eq]
  · unfold k2Exp
    rw [(q.map _).prod_eq]

/-! ### score equivalence across a covered edge (algebra in Proofs/ScoreEq.lean)

X and Y have the same other parents (q joint configurations); `N j x y` are the counts.  Chickering (1995):
two DAGs are Markov equivalent iff one is reached from the other by a sequence of covered-edge reversals, so
these three identities are the whole algebraic content of "BDeu, BIC and AIC assign identical scores to
Markov-equivalent DAGs"; the graph-theoretic chain itself is not proved here. -/

/-- BDeu: local score of X | Pa times local score of Y | Pa ∪ {X} is symmetric in X and Y -/
theorem C10_bdeu_covered_edge (ess : Rat) (hess : 0 < ess) (q rx ry : Nat) (hq : 0 < q) (hrx : 0 < rx) (hry : 0 < ry)
    (N : Nat → Nat → Nat → Nat) :
    bdeuExp ess rx (colsX q rx ry N) * bdeuExp ess ry (colsYgX q rx ry N)
      = bdeuExp ess ry (colsX q ry rx (fun j y x => N j x y)) * bdeuExp ess rx (colsYgX q ry rx (fun j y x => N j x y)) := by
  rw [bdeu_chain ess hess q rx ry hq hrx N, bdeu_chain ess hess q ry rx hq hry (fun j y x => N j x y), bdeuPair, bdeuPair,
    Nat.mul_right_comm q ry rx]
  refine Finset.prod_congr rfl fun j _ => ?_
  rw [Finset.prod_comm, Finset.sum_comm]

/-- BIC / AIC: the maximised likelihood is symmetric, including empty cells and empty rows -/
theorem C10_loglik_covered_edge (q rx ry : Nat) (N : Nat → Nat → Nat → Nat) :
    llExp (colsX q rx ry N) * llExp (colsYgX q rx ry N)
      = llExp (colsX q ry rx (fun j y x => N j x y)) * llExp (colsYgX q ry rx (fun j y x => N j x y)) := by
  rw [ll_chain q rx ry N, ll_chain q ry rx (fun j y x => N j x y), llPair, llPair]
  refine Finset.prod_congr rfl fun j _ => ?_
  rw [Finset.prod_comm, Finset.sum_comm]

/-- BIC / AIC: so is the number of free parameters, hence the penalty -/
theorem C10_nparams_covered_edge (q rx ry : Nat) (hrx : 0 < rx) (hry : 0 < ry) (N : Nat → Nat → Nat → Nat) :
    nParams rx (colsX q rx ry N) + nParams ry (colsYgX q rx ry N)
      = nParams ry (colsX q ry rx (fun j y x => N j x y)) + nParams rx (colsYgX q ry rx (fun j y x => N j x y)) := by
  obtain ⟨a, rfl⟩ := Nat.exists_eq_add_one_of_ne_zero hrx.ne'
  obtain ⟨b, rfl⟩ := Nat.exists_eq_add_one_of_ne_zero hry.ne'
  simp only [nParams, length_colsX, length_colsYgX, Nat.add_sub_cancel]
  ring

/-- non-vacuity / sanity: a concrete 2x2 table, both orientations, same BDeu value -/
example : bdeuExp 1 2 (colsX 1 2 2 (fun _ x y => x + 2 * y)) * bdeuExp 1 2 (colsYgX 1 2 2 (fun _ x y => x + 2 * y)) =
    bdeuExp 1 2 (colsX 1 2 2 (fun _ y x => x + 2 * y)) * bdeuExp 1 2 (colsYgX 1 2 2 (fun _ y x => x + 2 * y)) :=
  C10_bdeu_covered_edge 1 one_pos 1 2 2 Nat.one_pos Nat.two_pos Nat.two_pos _

example : (LRU.run (fun k : Nat => k * k) { maxSize := 2, entries := [] } [1, 2, 1, 3, 2]).2 = [1, 4, 1, 9, 4] :=
  rfl

/-- extraction tie: default cache size (≥ 1, as `C10_cache_transparent` requires) and default equivalent sample sizes -/
theorem C10_defaults_tie :
    Generated.scoreDefaults = [("LRUCache.max_size", 10000), ("ScoreCache.max_size", 10000), ("BDeuScore.ess", 10), ("BDsScore.ess", 10)] :=
  rfl

end PgmVerif
