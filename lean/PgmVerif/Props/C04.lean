/-
  Props/C04.lean — factor algebra is pointwise and independent of axis order: what every operation of
  `DiscreteFactor` denotes, the algebraic laws that follow, and scalars and rescaled tables
  (`Factor.scalar`, `Factor.scale`) with the identities that normalisation relies on.
  `K` is the model's cardinality function, `WF K f` says `f` is a table over distinct
  variables with those cardinalities, `Bounded K a` that `a` is a genuine joint state.
-/
import PgmVerif.Proofs.Factor
import Mathlib.Algebra.BigOperators.Ring.List
namespace PgmVerif
open Factor

/-- product is the pointwise product on the union scope -/
theorem C04_den_product (K : Var → Nat) (f g : Factor) (hf : f.WF K) (hg : g.WF K)
    (a : Asg) (ha : Bounded K a) :
    (product f g).den a = f.den a * g.den a ∧
    (∀ v, v ∈ (product f g).scope ↔ v ∈ f.scope ∨ v ∈ g.scope) :=
  ⟨den_product K f g hf hg a ha, mem_scope_product K f g hf hg⟩

theorem C04_den_add (K : Var → Nat) (f g : Factor) (hf : f.WF K) (hg : g.WF K)
    (a : Asg) (ha : Bounded K a) : (add f g).den a = f.den a + g.den a :=
  den_add K f g hf hg a ha

/-- division is the pointwise quotient with 0/0 = 0; x/0 (x ≠ 0) is flagged +inf by `divInf` -/
theorem C04_den_divide (K : Var → Nat) (f g : Factor) (hf : f.WF K)
    (hsub : ∀ v ∈ g.scope, v ∈ f.scope) (a : Asg) (ha : Bounded K a) :
    (divide f g).den a = if g.den a = 0 then 0 else f.den a / g.den a :=
  den_divide K f g hf hsub a ha

/-- marginalisation sums over every joint state of the eliminated variables exactly once:
    the summation list is indexed by `(allIdx cs).map (unravel cs)`, which enumerates exactly the in-range
    multi-indices without repetition (`mem_tuples_of_inRange`, `inRange_of_mem_tuples`,
    `tuples_nodup`) -/
theorem C04_den_marginalize (K : Var → Nat) (f : Factor) (hf : f.WF K) (vs : List Var)
    (a : Asg) (ha : Bounded K a) :
    (marginalize f vs).den a
      = (((allIdx ((elimScope f vs).map K)).map (unravel ((elimScope f vs).map K))).map
          (fun xs => f.den (overrideL a (elimScope f vs) xs))).sum
    ∧ (∀ v, v ∈ (marginalize f vs).scope ↔ v ∈ f.scope ∧ v ∉ vs) := by
  refine ⟨?_, fun v => by rw [scope_marginalize K f hf]; exact mem_keepScope⟩
  rw [den_marginalize K f hf vs a ha, List.map_map]
  rfl

/-- maximisation returns a value of the table over the eliminated variables that is ≥ all others -/
theorem C04_den_maximize (K : Var → Nat) (f : Factor) (hf : f.WF K) (vs : List Var)
    (a : Asg) (ha : Bounded K a) (hpos : ∀ v, 0 < K v) :
    (∀ xs, InRange ((elimScope f vs).map K) xs →
        f.den (overrideL a (elimScope f vs) xs) ≤ (maximize f vs).den a) ∧
    (∃ xs, InRange ((elimScope f vs).map K) xs ∧
        (maximize f vs).den a = f.den (overrideL a (elimScope f vs) xs)) := by
  rw [den_maximize K f hf vs a ha]
  refine ⟨fun xs hxs => maxR_ge _ _ (mem_overStates.mpr ⟨xs, hxs, rfl⟩), ?_⟩
  have hne : overStates (elimScope f vs) ((elimScope f vs).map K) a f.den ≠ [] :=
    List.ne_nil_of_mem (mem_overStates.mpr ⟨(elimScope f vs).map a, inRange_map K a ha _, rfl⟩)
  obtain ⟨xs, hxs, e⟩ := mem_overStates.mp (maxR_mem _ hne)
  exact ⟨xs, hxs, e.symm⟩

theorem C04_den_reduce (K : Var → Nat) (f : Factor) (hf : f.WF K) (ev : List (Var × Nat))
    (a : Asg) (ha : Bounded K a) :
    (reduce f ev).den a = f.den (overrideL a (ev.map (·.1)) (ev.map (·.2))) :=
  den_reduce K f hf ev a ha

/-- normalisation divides by the sum over all joint states -/
theorem C04_den_normalize (K : Var → Nat) (f : Factor) (hf : f.WF K) (a : Asg) :
    (normalize f).den a
      = f.den a / ((allIdx f.card).map (fun i => f.den (asgOf f.scope f.card i))).sum := by
  rw [den_normalize, total_eq K f hf]; rfl

/-- the result of a binary operation does not depend on the axis order in which either operand
    is presented -/
theorem C04_axis_order_irrelevant (K : Var → Nat) (f g : Factor) (hf : f.WF K) (hg : g.WF K)
    (nf ng : List Var) (hnf : nf.Nodup) (hng : ng.Nodup)
    (hf1 : ∀ v, v ∈ nf ↔ v ∈ f.scope) (hg1 : ∀ v, v ∈ ng ↔ v ∈ g.scope)
    (a : Asg) (ha : Bounded K a) :
    (product (permuteAxes f nf) (permuteAxes g ng)).den a = (product f g).den a ∧
    (add (permuteAxes f nf) (permuteAxes g ng)).den a = (add f g).den a := by
  have wf' := wf_permuteAxes K f hf nf hnf (fun v hv => (hf1 v).mp hv)
  have wg' := wf_permuteAxes K g hg ng hng (fun v hv => (hg1 v).mp hv)
  have df := den_permuteAxes K f hf nf (fun v hv => (hf1 v).mp hv) (fun v hv => (hf1 v).mpr hv) a ha
  have dg := den_permuteAxes K g hg ng (fun v hv => (hg1 v).mp hv) (fun v hv => (hg1 v).mpr hv) a ha
  rw [den_product K _ _ wf' wg' a ha, den_add K _ _ wf' wg' a ha, den_product K f g hf hg a ha,
    den_add K f g hf hg a ha, df, dg]
  exact ⟨rfl, rfl⟩

theorem C04_product_comm (K : Var → Nat) (f g : Factor) (hf : f.WF K) (hg : g.WF K)
    (a : Asg) (ha : Bounded K a) : (product f g).den a = (product g f).den a := by
  rw [den_product K f g hf hg a ha, den_product K g f hg hf a ha, mul_comm]

theorem C04_product_assoc (K : Var → Nat) (f g h : Factor) (hf : f.WF K) (hg : g.WF K) (hh : h.WF K)
    (a : Asg) (ha : Bounded K a) :
    (product (product f g) h).den a = (product f (product g h)).den a := by
  rw [den_product K _ h (wf_product K f g hf hg) hh a ha, den_product K f g hf hg a ha,
    den_product K f _ hf (wf_product K g h hg hh) a ha, den_product K g h hg hh a ha, mul_assoc]

theorem C04_wf_product (K : Var → Nat) (f g : Factor) (hf : f.WF K) (hg : g.WF K) :
    (product f g).WF K ∧ (add f g).WF K ∧ (divide f g).WF K :=
  ⟨wf_product K f g hf hg, wf_add K f g hf hg, wf_divide K f g hf⟩

theorem C04_wf_marginalize (K : Var → Nat) (f : Factor) (hf : f.WF K) (vs : List Var)
    (ev : List (Var × Nat)) :
    (marginalize f vs).WF K ∧ (maximize f vs).WF K ∧ (reduce f ev).WF K ∧ (normalize f).WF K :=
  ⟨wf_marginalize K f hf vs, (elimWith_isTable K maxR f hf vs).wf, wf_reduce K f hf ev, wf_normalize K f hf⟩

/-! non-vacuity: a concrete well-formed factor and a bounded assignment exist -/
example : (Factor.mk [3, 1] [2, 3] #[1, 2, 3, 4, 5, 6]).WF (fun v => if v = 3 then 2 else 3) ∧
    Bounded (fun v => if v = 3 then 2 else 3) (fun v => if v = 3 then 1 else 2) := by
  refine ⟨⟨by decide, by decide, by decide⟩, ?_⟩
  intro v
  by_cases h : v = 3 <;> simp [h]

/-- a scalar as a factor over no variables (how `phi * k`, `phi + k` are modelled) -/
def Factor.scalar (k : Rat) : Factor := { scope := [], card := [], vals := #[k] }

theorem scalar_wf (K : Var → Nat) (k : Rat) : (Factor.scalar k).WF K := by
  refine ⟨List.nodup_nil, rfl, ?_⟩
  simp [Factor.scalar]

theorem scalar_den (k : Rat) (a : Asg) : (Factor.scalar k).den a = k := by
  simp [Factor.scalar, Factor.den, ravel]

/-- multiplying by the scalar k scales every entry, adding it shifts every entry, and neither changes the scope;
    in particular 1 and 0 are neutral: `phi * 1` and `phi + 0` denote `phi` -/
theorem C04_scalar_ops (K : Var → Nat) (f : Factor) (hf : f.WF K) (k : Rat) (a : Asg) (ha : Bounded K a) :
    (product f (Factor.scalar k)).den a = f.den a * k ∧
    (add f (Factor.scalar k)).den a = f.den a + k ∧
    (∀ v, v ∈ (product f (Factor.scalar k)).scope ↔ v ∈ f.scope) := by
  have h := C04_den_product K f (Factor.scalar k) hf (scalar_wf K k) a ha
  refine ⟨by rw [h.1, scalar_den], ?_, fun v => ?_⟩
  · rw [C04_den_add K f (Factor.scalar k) hf (scalar_wf K k) a ha, scalar_den]
  · rw [h.2 v]; simp [Factor.scalar]

theorem C04_scalar_neutral (K : Var → Nat) (f : Factor) (hf : f.WF K) (a : Asg) (ha : Bounded K a) :
    (product f (Factor.scalar 1)).den a = f.den a ∧ (add f (Factor.scalar 0)).den a = f.den a := by
  have h := C04_scalar_ops K f hf
  exact ⟨by rw [(h 1 a ha).1, Rat.mul_one], by rw [(h 0 a ha).2.1, Rat.add_zero]⟩

theorem scale_total (c : Rat) (f : Factor) : (Factor.scale c f).total = c * f.total := by
  unfold total Factor.scale sumR
  rw [Array.toList_map, List.sum_map_mul_left, List.map_id']

/-- **normalising forgets the scale**: a table and any non-zero multiple of it normalise to the same table (likelihoods and
    unnormalised posteriors are defined up to a constant; a posterior with P(evidence) = 1e-300 is as good as any) -/
theorem C04_normalize_scale (K : Var → Nat) (f : Factor) (hf : f.WF K) (c : Rat) (hc : c ≠ 0) (a : Asg) :
    (normalize (Factor.scale c f)).den a = (normalize f).den a := by
  rw [den_normalize, den_normalize, scale_den, scale_total, mul_div_mul_left _ _ hc]

/-- **dividing and multiplying back**: `(phi / psi) * psi` is `phi` wherever `psi` is non-zero and 0 where
    `psi` is 0 (numpy's 0/0 -> 0 as used by `divide`) - the identity a belief-update message relies on
    when it replaces a sepset belief -/
theorem C04_divide_product_cancel (K : Var → Nat) (f g : Factor) (hf : f.WF K) (hg : g.WF K)
    (hsub : ∀ v ∈ g.scope, v ∈ f.scope) (a : Asg) (ha : Bounded K a) :
    (product (divide f g) g).den a = if g.den a = 0 then 0 else f.den a := by
  rw [(C04_den_product K (divide f g) g (wf_divide K f g hf) hg a ha).1,
      C04_den_divide K f g hf hsub a ha]
  split
  · simp
  · next hne => exact div_mul_cancel₀ _ hne

/-- **the order in which evidence is given is irrelevant**: reducing to the same (variable, state) pairs listed in
    any order (a dict, a list of tuples, whatever iteration order) gives the same table -/
theorem C04_reduce_order_irrelevant (K : Var → Nat) (f : Factor) (hf : f.WF K) (ev ev' : List (Var × Nat))
    (p : ev.Perm ev') (hn : (ev.map (·.1)).Nodup) (a : Asg) (ha : Bounded K a) :
    (reduce f ev).den a = (reduce f ev').den a := by
  rw [C04_den_reduce K f hf ev a ha, C04_den_reduce K f hf ev' a ha]
  congr 1
  funext w
  exact overrideL_perm a p hn w

/-- **the variables to eliminate are a set**: `marginalize` / `maximize` called with the same variables in another
    order (or listed twice) return the very same table, entry for entry -/
theorem C04_eliminate_set (f : Factor) (vs vs' : List Var) (h : ∀ v, v ∈ vs ↔ v ∈ vs') :
    marginalize f vs = marginalize f vs' ∧ maximize f vs = maximize f vs' := by
  have hc : ∀ v, vs.contains v = vs'.contains v := by
    intro v; rw [Bool.eq_iff_iff]; simp [h v]
  unfold marginalize maximize Factor.inside Factor.outside
  -- with `hc` both sides of each equation are the same term: `simp only` leaves `True ∧ True`
  simp only [hc]
  trivial

/-- **a normalised table sums to one** over all joint states whenever the total is not zero (a posterior exists
    iff P(evidence) ≠ 0) -/
theorem C04_normalize_sums_to_one (K : Var → Nat) (f : Factor) (hf : f.WF K)
    (hT : ((allIdx f.card).map (fun i => f.den (asgOf f.scope f.card i))).sum ≠ 0) :
    ((allIdx f.card).map (fun i => (normalize f).den (asgOf f.scope f.card i))).sum = 1 := by
  have ht : ((allIdx f.card).map (fun i => f.den (asgOf f.scope f.card i))).sum = f.total :=
    (total_eq K f hf).symm
  rw [ht] at hT
  simp only [den_normalize, div_eq_mul_inv]
  rw [List.sum_map_mul_right, ht, mul_inv_cancel₀ hT]

end PgmVerif
